import PV.Model.Pool
/-
Every history of Allocate / Continue calls on `PV.Pool` (util::Pool) keeps `Inv`: the allocations are ordered by page and offset,
hence disjoint; the most recent one ends at the bump pointer, which is what `Continue` presumes; every copy goes from an older
page to the page it opened.
-/
namespace PV.Lemmas.Pool
open PV.Pool

/-- allocation order: earlier allocations sit in earlier pages, or lower in the same page -/
def ordered (a b : Live) : Prop :=
  a.addr.page < b.addr.page ∨ (a.addr.page = b.addr.page ∧ a.addr.off + a.size ≤ b.addr.off)

theorem ordered_disjoint {a b : Live} (h : ordered a b) : disjoint a b := by
  unfold ordered at h; unfold disjoint; omega

/-- `last` and `below` tie the bump pointer `cur` to the allocations in the last page; with `ord` they are what keeps a
    new allocation clear of the old ones. -/
structure Inv (h : Hist) : Prop where
  cur_le : h.pool.cur ≤ h.pool.endOff
  inpage : ∀ l ∈ h.live, inPage h.pool l.addr l.size
  -- the most recent allocation ends at the bump pointer: what `Continue` presumes of its `base`
  last : ∀ l, h.live.getLast? = some l →
    l.addr.page = h.pool.pages.length ∧ l.addr.off + l.size = h.pool.cur
  -- everything else in the last page lies under the bump pointer
  below : ∀ l ∈ h.live, l.addr.page = h.pool.pages.length → l.addr.off + l.size ≤ h.pool.cur
  ord : h.live.Pairwise ordered
  -- every memcpy of `Continue` goes from an older page to the page it opened
  copies : ∀ c ∈ h.copies, inPage h.pool c.src c.len ∧ inPage h.pool c.dst c.len ∧ c.src.page < c.dst.page
  -- `amount`: the page with 0-based index `k` was sized `max (32 <<< k) request`
  sizes : ∀ k (hk : k < h.pool.pages.length), 32 * 2 ^ k ≤ h.pool.pages[k]

theorem endOff_append (ps : List Nat) (a c : Nat) : Pool.endOff ⟨ps ++ [a], c⟩ = a := by
  simp [Pool.endOff]

theorem pageSize_append (ps : List Nat) (a c c' j : Nat) (hj : j ≤ ps.length) :
    Pool.pageSize ⟨ps ++ [a], c⟩ j = Pool.pageSize ⟨ps, c'⟩ j := by
  unfold Pool.pageSize
  split
  · rfl
  · simp only [List.getD_eq_getElem?_getD]
    rw [List.getElem?_append_left (by omega)]

theorem pageSize_new (ps : List Nat) (a c : Nat) :
    Pool.pageSize ⟨ps ++ [a], c⟩ (ps.length + 1) = a := by
  simp [Pool.pageSize, List.getD_eq_getElem?_getD]

theorem pageSize_last (p : Pool) : p.pageSize p.pages.length = p.endOff := by
  unfold Pool.pageSize Pool.endOff
  split
  · rename_i h0
    have : p.pages = [] := List.eq_nil_of_length_eq_zero h0
    simp [this]
  · simp [List.getD_eq_getElem?_getD, List.getLast?_eq_getElem?]

theorem inPage_append {ps : List Nat} {c' : Nat} (x c : Nat) {a : Addr} {n : Nat}
    (h : inPage ⟨ps, c'⟩ a n) : inPage ⟨ps ++ [x], c⟩ a n :=
  ⟨Nat.le_trans h.1 (List.length_append ▸ Nat.le_add_right ..), pageSize_append ps x c c' a.page h.1 ▸ h.2⟩

theorem amount_ge_size (n s : Nat) : s ≤ amount n s := Nat.le_max_right _ _

theorem amount_ge_pow (n s : Nat) : 32 * 2 ^ n ≤ amount n s :=
  Nat.shiftLeft_eq .. ▸ Nat.le_max_left _ _

/-- the history after `n` bytes are put at offset `o` of the last page or, when they do not fit,
    at the start of a new page; `L` are the allocations that stay, `C` the copies once a page has
    been opened.  Both `Allocate` and `Continue` (which first gives the last allocation back) do this. -/
def place (h : Hist) (L : List Live) (o n : Nat) (C : List Copy) : Hist :=
  if o + n > h.pool.endOff then
    ⟨⟨h.pool.pages ++ [amount h.pool.pages.length n], n⟩, L ++ [⟨⟨h.pool.pages.length + 1, 0⟩, n⟩], C⟩
  else ⟨⟨h.pool.pages, o + n⟩, L ++ [⟨⟨h.pool.pages.length, o⟩, n⟩], h.copies⟩

theorem inv_place {h : Hist} (hi : Inv h) {L : List Live} {o n : Nat} {C : List Copy}
    (hL : ∀ b ∈ L, b ∈ h.live ∧ (b.addr.page = h.pool.pages.length → b.addr.off + b.size ≤ o))
    (hord : L.Pairwise ordered)
    -- if a page is opened, a copy in `C` is an old one, or goes from inside the old pages to the start of the new
    -- page and is no longer than what is placed there
    (hC : o + n > h.pool.endOff → ∀ c ∈ C, c ∈ h.copies ∨
      (inPage h.pool c.src c.len ∧ c.dst = ⟨h.pool.pages.length + 1, 0⟩ ∧ c.len ≤ n)) :
    Inv (place h L o n C) := by
  have hpg : ∀ b ∈ L, b.addr.page ≤ h.pool.pages.length := fun b hb => (hi.inpage b (hL b hb).1).1
  have hlen (a : Nat) : (h.pool.pages ++ [a]).length = h.pool.pages.length + 1 := List.length_append
  unfold place
  split
  next hgt =>
    -- whatever starts the new page and is no longer than the request lies inside it
    have hnew : ∀ m ≤ n, inPage ⟨h.pool.pages ++ [amount h.pool.pages.length n], n⟩
        ⟨h.pool.pages.length + 1, 0⟩ m := fun m hm =>
      ⟨Nat.le_of_eq (hlen _).symm, by
        rw [pageSize_new]
        exact Nat.le_trans (Nat.le_of_eq (Nat.zero_add m)) (Nat.le_trans hm (amount_ge_size ..))⟩
    exact {
      cur_le := endOff_append .. ▸ amount_ge_size ..
      inpage := List.forall_mem_append.2 ⟨fun l hl => inPage_append _ _ (hi.inpage l (hL l hl).1),
        List.forall_mem_singleton.2 (hnew n (Nat.le_refl n))⟩
      last := fun l hl => by
        cases List.getLast?_concat.symm.trans hl
        exact ⟨(hlen _).symm, Nat.zero_add n⟩
      below := List.forall_mem_append.2 ⟨fun l hl hp => absurd (hpg l hl) (by rw [hp, hlen]; exact Nat.lt_irrefl _),
        List.forall_mem_singleton.2 fun _ => Nat.le_of_eq (Nat.zero_add n)⟩
      ord := List.pairwise_append.2 ⟨hord, List.pairwise_singleton .., fun a ha b hb => by
        cases List.mem_singleton.1 hb
        exact Or.inl (Nat.lt_succ_of_le (hpg a ha))⟩
      copies := fun c hc => by
        rcases hC hgt c hc with hc | ⟨h1, h2, h3⟩
        · obtain ⟨c1, c2, c3⟩ := hi.copies c hc
          exact ⟨inPage_append _ _ c1, inPage_append _ _ c2, c3⟩
        · exact ⟨inPage_append _ _ h1, h2 ▸ hnew _ h3, h2 ▸ Nat.lt_succ_of_le h1.1⟩
      sizes := fun k hk => by
        rcases Nat.lt_or_ge k h.pool.pages.length with hlt | hge
        · exact List.getElem_append_left hlt ▸ hi.sizes k hlt
        · have hk' : k < h.pool.pages.length + 1 := hlen _ ▸ hk
          cases Nat.le_antisymm (Nat.le_of_lt_succ hk') hge
          exact List.getElem_concat_length rfl _ ▸ amount_ge_pow .. }
  next hfit =>
    exact {
      cur_le := Nat.le_of_not_lt hfit
      inpage := List.forall_mem_append.2 ⟨fun l hl => hi.inpage l (hL l hl).1,
        List.forall_mem_singleton.2 ⟨Nat.le_refl _, pageSize_last h.pool ▸ Nat.le_of_not_lt hfit⟩⟩
      last := fun l hl => by
        cases List.getLast?_concat.symm.trans hl
        exact ⟨rfl, rfl⟩
      below := List.forall_mem_append.2 ⟨fun l hl hp => Nat.le_trans ((hL l hl).2 hp) (Nat.le_add_right ..),
        List.forall_mem_singleton.2 fun _ => Nat.le_refl _⟩
      ord := List.pairwise_append.2 ⟨hord, List.pairwise_singleton .., fun a ha b hb => by
        cases List.mem_singleton.1 hb
        exact (Nat.lt_or_eq_of_le (hpg a ha)).imp id fun hp => ⟨hp, (hL a ha).2 hp⟩⟩
      copies := hi.copies
      sizes := hi.sizes }

theorem inv_init : Inv Hist.init :=
  { cur_le := Nat.le_refl 0, inpage := nofun, last := nofun, below := nofun, ord := .nil, copies := nofun,
    sizes := nofun }

theorem step_alloc (h : Hist) (n : Nat) : h.step (.alloc n) = some (place h h.live h.pool.cur n h.copies) := by
  simp only [Hist.step, allocate, more, place]
  split <;> rfl

/-- `Continue` on the most recent allocation `l` gives it back and places the new size where it was;
    if that opens a page, the old bytes are copied. -/
theorem step_cont {h : Hist} {l : Live} {d : Int} (hi : Inv h) (hl : h.live.getLast? = some l)
    (hd : 0 ≤ (l.size : Int) + d) :
    h.step (.cont d) = some (place h h.live.dropLast l.addr.off ((l.size : Int) + d).toNat
      (h.copies ++ [⟨l.addr, ⟨h.pool.pages.length + 1, 0⟩, l.size⟩])) := by
  obtain ⟨hp, hc⟩ := hi.last l hl
  obtain ⟨⟨pg, off⟩, sz⟩ := l
  simp only at hp hc hd ⊢
  subst hp
  have e1 : ((h.pool.cur : Int) + d).toNat = off + ((sz : Int) + d).toNat := by
    rw [← hc, Int.natCast_add, Int.add_assoc, Int.toNat_add (Int.natCast_nonneg _) hd, Int.toNat_natCast]
  have e2 : ((((sz : Int) + d).toNat : Int) - d).toNat = sz := by
    rw [Int.toNat_of_nonneg hd, Int.add_sub_cancel, Int.toNat_natCast]
  simp only [Hist.step, hl, continue_, more, place]
  rw [if_neg (Int.not_lt.2 hd), if_neg (by omega)]
  simp only [e1, e2, Nat.add_sub_cancel_left]
  by_cases hgt : off + ((sz : Int) + d).toNat > h.pool.endOff
  · simp only [if_pos hgt]
    rfl
  · simp only [if_neg hgt, Option.toList, List.append_nil]

theorem step_cont_some {h h' : Hist} {d : Int} (hs : h.step (.cont d) = some h') :
    ∃ l, h.live.getLast? = some l ∧ 0 ≤ (l.size : Int) + d := by
  rw [Hist.step] at hs
  split at hs
  · cases hs
  next l hl =>
    split at hs
    · cases hs
    next hd => exact ⟨l, hl, Int.not_lt.1 hd⟩

theorem inv_step {h h' : Hist} {o : Op} (hi : Inv h) (hs : h.step o = some h') : Inv h' := by
  cases o with
  | alloc n =>
    cases (step_alloc h n).symm.trans hs
    exact inv_place hi (fun b hb => ⟨hb, hi.below b hb⟩) hi.ord fun _ c hc => .inl hc
  | cont d =>
    obtain ⟨l, hl, hd⟩ := step_cont_some hs
    cases (step_cont hi hl hd).symm.trans hs
    obtain ⟨ys, hys⟩ := List.getLast?_eq_some_iff.1 hl
    have hmem : ∀ b ∈ ys ++ [l], b ∈ h.live := fun b hb => hys ▸ hb
    have hlm := hmem l (List.mem_append_right _ (List.mem_singleton_self l))
    obtain ⟨hord1, -, hord2⟩ := List.pairwise_append.1 (hys ▸ hi.ord)
    rw [hys, List.dropLast_concat]
    refine inv_place hi (fun b hb => ⟨hmem b (List.mem_append_left _ hb), fun hp => ?_⟩) hord1 fun hgt c hc => ?_
    · -- `b` comes before `l` and is in the same page
      rcases hord2 b hb l (List.mem_singleton_self l) with hlt | ⟨-, hle⟩
      · exact absurd (hi.inpage l hlm).1 (hp ▸ Nat.not_le_of_lt hlt)
      · exact hle
    · rcases List.mem_append.1 hc with hc | hc
      · exact .inl hc
      · cases List.mem_singleton.1 hc
        -- a page is opened only if the allocation grows: `cur = l.off + l.size ≤ endOff`
        have := (hi.last l hl).2
        have := hi.cur_le
        exact .inr ⟨hi.inpage l hlm, rfl, show l.size ≤ _ by omega⟩

theorem inv_run {ops : List Op} {h0 h : Hist} (hi : Inv h0) (hr : h0.run ops = some h) : Inv h := by
  induction ops generalizing h0 with
  | nil =>
    cases hr
    exact hi
  | cons o os ih =>
    rw [Hist.run] at hr
    split at hr
    · cases hr
    next h1 hs => exact ih (inv_step hi hs) hr

theorem inv_of_run {ops : List Op} {h : Hist} (hr : Hist.init.run ops = some h) : Inv h :=
  inv_run inv_init hr

theorem run_allocs (sizes : List Nat) (h0 : Hist) :
    ∃ h, h0.run (sizes.map Op.alloc) = some h ∧ h.live.length = h0.live.length + sizes.length ∧
      h.copies = h0.copies := by
  induction sizes generalizing h0 with
  | nil => exact ⟨h0, rfl, rfl, rfl⟩
  | cons n ns ih =>
    obtain ⟨h, hr, hl, hc⟩ := ih { h0 with pool := (allocate h0.pool n).1, live := h0.live ++ [⟨(allocate h0.pool n).2, n⟩] }
    exact ⟨h, hr, hl.trans (by rw [List.length_append]; exact Nat.add_right_comm ..), hc⟩

theorem allocate_pages (p : Pool) (n : Nat) : p.pages <+: (allocate p n).1.pages := by
  unfold allocate
  split
  · exact List.prefix_append ..
  · exact List.prefix_refl _

theorem continue_pages {p p' : Pool} {b a : Addr} {d : Int} {c : Option Copy}
    (h : continue_ p b d = some (p', a, c)) : p.pages <+: p'.pages := by
  unfold continue_ at h
  split at h
  · cases h
  · simp only at h
    split at h <;> cases h
    · exact List.prefix_append ..
    · exact List.prefix_refl _

/-- pages that double in size: the first `n` of them hold `32·(2^n - 1)` bytes or more. -/
theorem sum_take_ge {ps : List Nat} (h : ∀ k (hk : k < ps.length), 32 * 2 ^ k ≤ ps[k]) :
    ∀ n, n ≤ ps.length → 32 * 2 ^ n ≤ (ps.take n).sum + 32
  | 0, _ => Nat.le_add_left ..
  | n + 1, hn => by
    have := sum_take_ge h n (Nat.le_of_succ_le hn)
    have := h n hn
    rw [List.take_succ_eq_append_getElem hn, List.sum_append_nat, List.sum_singleton, Nat.pow_succ]
    omega

/-- as long as the pages fit a 64-bit address space there are at most 59 of them, so the shift count in
`32 << free_list_.size()` is below 64 at every call of More (no undefined shift, no wrap to a tiny page) -/
theorem shift_count_small {h : Hist} (hi : Inv h) (hfit : h.pool.pages.sum < 2 ^ 64) :
    h.pool.pages.length ≤ 59 := by
  have hs := sum_take_ge hi.sizes _ (Nat.le_refl _)
  rw [List.take_length] at hs
  refine Nat.le_of_not_lt fun hlt => ?_
  have : 2 ^ 60 ≤ 2 ^ h.pool.pages.length := Nat.pow_le_pow_right (by decide) hlt
  omega

end PV.Lemmas.Pool
