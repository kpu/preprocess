import PV.Model.Fields
import PV.Spec.Fields
import PV.Lemmas.Basic
namespace PV.Lemmas.Fields
open PV.Fields PV.Spec.Fields

/-! RangeFields and IndividualFields.  A line is its fields joined by the delimiter, and the loops of fields.hh
are followed by the offset at which field `i` starts (`FieldStart`): every `find` cuts off one field, so that
skipping and taking fields are `drop` and `take` on `splitFields`. -/

theorem take_length_takeWhile {α} (p : α → Bool) (l : List α) :
    l.take (l.takeWhile p).length = l.takeWhile p :=
  (List.prefix_iff_eq_take.mp (List.takeWhile_prefix p)).symm

theorem drop_length_takeWhile {α} (p : α → Bool) (l : List α) :
    l.drop (l.takeWhile p).length = l.dropWhile p := by
  have := List.drop_left' (l₁ := l.takeWhile p) (l₂ := l.dropWhile p) rfl
  rwa [List.takeWhile_append_dropWhile] at this

theorem splitFields_eq (d : UInt8) (l : List UInt8) :
    splitFields d l = l.takeWhile (· != d) ::
      (match l.dropWhile (· != d) with | [] => [] | _ :: r => splitFields d r) := by
  induction l with
  | nil => rfl
  | cons c r ih =>
    rw [splitFields, List.takeWhile_cons, List.dropWhile_cons, bne]
    cases c == d <;> rw [ih]
    · rfl
    · exact congrArg _ ih.symm

theorem splitFields_ne_nil (d : UInt8) (l : List UInt8) : splitFields d l ≠ [] := by
  rw [splitFields_eq]
  exact List.cons_ne_nil _ _

theorem splitFields_append_delim (d : UInt8) (a r : List UInt8) (h : d ∉ a) :
    splitFields d (a ++ d :: r) = a :: splitFields d r := by
  obtain ⟨e1, e2⟩ := takeWhile_append_cons r (bne_of_not_mem h) (bne_self_eq_false d)
  rw [splitFields_eq, e1, e2]

theorem splitFields_cons_delim (d : UInt8) (r : List UInt8) :
    splitFields d (d :: r) = [] :: splitFields d r :=
  splitFields_append_delim d [] r List.not_mem_nil

theorem splitFields_of_not_mem (d : UInt8) (a : List UInt8) (h : d ∉ a) : splitFields d a = [a] := by
  obtain ⟨e1, e2⟩ := takeWhile_append_stop (r := []) (bne_of_not_mem h) rfl
  have := splitFields_eq d (a ++ [])
  rwa [e1, e2, List.append_nil] at this

theorem join_cons (d : UInt8) (a : List UInt8) {F : List (List UInt8)} (h : F ≠ []) :
    join d (a :: F) = a ++ d :: join d F := by
  obtain ⟨f, fs, rfl⟩ := List.exists_cons_of_ne_nil h
  rfl

theorem join_splitFields (d : UInt8) (l : List UInt8) : join d (splitFields d l) = l := by
  induction l using fields_induction d with
  | last a h => rw [splitFields_of_not_mem d a h]; rfl
  | more a r h ih => rw [splitFields_append_delim d a r h, join_cons d a (splitFields_ne_nil d r), ih]

theorem not_mem_of_mem_splitFields (d : UInt8) (l : List UInt8) : ∀ f ∈ splitFields d l, d ∉ f := by
  induction l using fields_induction d with
  | last a h => rw [splitFields_of_not_mem d a h]; simpa using h
  | more a r h ih => rw [splitFields_append_delim d a r h]; simpa using ⟨h, ih⟩

theorem splitFields_join (d : UInt8) : ∀ (fs : List (List UInt8)), fs ≠ [] → (∀ f ∈ fs, d ∉ f) →
    splitFields d (join d fs) = fs
  | [f], _, h => splitFields_of_not_mem d f (h f (.head _))
  | f :: g :: r, _, h => by
    rw [join, splitFields_append_delim d _ _ (h f (.head _)),
      splitFields_join d (g :: r) (List.cons_ne_nil _ _) (fun x hx => h x (.tail _ hx))]

theorem length_splitFields_le (d : UInt8) (l : List UInt8) :
    (splitFields d l).length ≤ l.length + 1 := by
  induction l using fields_induction d with
  | last a h => rw [splitFields_of_not_mem d a h]; exact Nat.le_add_left _ _
  | more a r h ih =>
    rw [splitFields_append_delim d a r h, List.length_cons, List.length_append, List.length_cons]
    omega

theorem join_append (d : UInt8) (a b : List (List UInt8)) (ha : a ≠ []) (hb : b ≠ []) :
    join d (a ++ b) = join d a ++ d :: join d b := by
  induction a with
  | nil => contradiction
  | cons x a ih =>
    cases a with
    | nil => exact join_cons d x hb
    | cons y a =>
      rw [List.cons_append, join_cons d x (by simp), ih (by simp), join_cons d x (by simp),
        List.append_assoc]
      rfl

/-- `b` is the offset at which field number `i` of `line` starts. -/
def FieldStart (d : UInt8) (line : List UInt8) (i b : Nat) : Prop :=
  b ≤ line.length ∧ splitFields d (line.drop b) = (splitFields d line).drop i

theorem fieldStart_zero (d : UInt8) (line : List UInt8) : FieldStart d line 0 0 :=
  ⟨Nat.zero_le _, rfl⟩

theorem FieldStart.lt {d line i b} (h : FieldStart d line i b) : i < (splitFields d line).length := by
  have := splitFields_ne_nil d (line.drop b)
  rw [h.2, Ne, List.drop_eq_nil_iff] at this
  exact Nat.lt_of_not_le this

/-- One `begin = find(begin, end, delim) + 1; if (begin > end) return` of fields.hh. -/
theorem FieldStart.step {d line i b} (h : FieldStart d line i b) :
    (splitFields d line).drop i =
        slice line b (findFrom line d b) :: (splitFields d line).drop (i + 1) ∧
    (findFrom line d b + 1 > line.length ∧ (splitFields d line).length ≤ i + 1 ∨
      ¬ findFrom line d b + 1 > line.length ∧ FieldStart d line (i + 1) (findFrom line d b + 1)) := by
  obtain ⟨hb, hs⟩ := h
  have hE := splitFields_eq d (line.drop b)
  have hlen := congrArg List.length (List.takeWhile_append_dropWhile (p := (· != d)) (l := line.drop b))
  have hdw := drop_length_takeWhile (· != d) (line.drop b)
  rw [hs] at hE
  rw [List.length_append, List.length_drop] at hlen
  rw [← List.tail_drop, hE]
  unfold slice findFrom
  rw [List.drop_take, Nat.add_sub_cancel_left, take_length_takeWhile]
  refine ⟨rfl, ?_⟩
  cases hd : (line.drop b).dropWhile (· != d) with
  | nil =>
    rw [hd, List.length_nil] at hlen
    refine .inl ⟨by omega, ?_⟩
    rw [← List.drop_eq_nil_iff, ← List.tail_drop, hE, hd]
    rfl
  | cons c r =>
    rw [hd, List.length_cons] at hlen
    refine .inr ⟨Nat.not_lt.mpr ?le, ?le, ?_⟩
    · omega
    · rw [Nat.add_assoc, ← List.drop_drop, ← List.drop_drop, hdw,
        ← List.tail_drop (l := splitFields d line), hE, hd]
      rfl

theorem skipFields_cases {d line} {n : Nat} : ∀ {i b j}, FieldStart d line i b → i + n = j →
    skipFields line d n b = none ∧ (splitFields d line).length ≤ j ∨
    ∃ b', skipFields line d n b = some b' ∧ FieldStart d line j b' := by
  induction n with
  | zero => rintro _ b _ h rfl; exact .inr ⟨b, rfl, h⟩
  | succ n ih =>
    rintro i b _ h rfl
    rw [skipFields]
    rcases h.step.2 with ⟨hc, hs⟩ | ⟨hc, hs⟩
    · rw [if_pos hc]
      exact .inl ⟨rfl, Nat.le_trans hs (Nat.add_le_add_left (Nat.le_add_left 1 n) i)⟩
    · rw [if_neg hc]
      exact ih hs (Nat.add_right_comm i 1 n)

theorem takeFields_eq (line : List UInt8) (d : UInt8) (old n : Nat) : ∀ b,
    takeFields line d old n b =
      match skipFields line d n b with
      | none => .inl (slice line old line.length)
      | some b' => .inr b' := by
  induction n with
  | zero => exact fun _ => rfl
  | succ n ih =>
    intro b
    rw [takeFields, skipFields]
    split
    · rfl
    · exact ih _

theorem takeIndividual_spec {d line} (n : Nat) : ∀ {i b}, FieldStart d line i b →
    takeIndividual line d n b = (((splitFields d line).drop i).take n, skipFields line d n b) := by
  induction n with
  | zero => intro i b _; rw [List.take_zero]; rfl
  | succ n ih =>
    intro i b h
    obtain ⟨hd, hs⟩ := h.step
    rw [takeIndividual, skipFields, hd, List.take_succ_cons]
    rcases hs with ⟨hc, hs⟩ | ⟨hc, hs⟩
    · rw [if_pos hc, if_pos hc, List.drop_eq_nil_iff.mpr hs, List.take_nil]
    · rw [if_neg hc, if_neg hc, ih hs]

theorem FieldStart.join_drop {d line i b} (h : FieldStart d line i b) :
    join d ((splitFields d line).drop i) = line.drop b := by
  rw [← h.2, join_splitFields]

theorem FieldStart.slice_eq_join {d line i a j b'} (h : FieldStart d line i a)
    (h' : FieldStart d line j b') (hij : i < j) :
    slice line a (b' - 1) = join d (((splitFields d line).drop i).take (j - i)) := by
  have hlt := h'.lt
  have hj := h.join_drop
  rw [← List.take_append_drop (j - i) (List.drop i _), List.drop_drop,
    Nat.add_sub_cancel' (Nat.le_of_lt hij), join_append, h'.join_drop] at hj
  · have hl := congrArg List.length hj
    rw [List.length_append, List.length_cons, List.length_drop, List.length_drop] at hl
    have ha := h.1
    have hb := h'.1
    -- `omega` is much slower with the subtractions of `take_left'` in the goal
    rw [slice, List.drop_take, ← hj,
      List.take_left' (Nat.eq_sub_of_add_eq (Nat.eq_sub_of_add_eq (by omega)))]
  · rw [Ne, List.take_eq_nil_iff, List.drop_eq_nil_iff]
    exact fun h => h.elim (Nat.sub_ne_zero_of_lt hij) (Nat.not_le.mpr (Nat.lt_trans hij hlt))
  · rw [Ne, List.drop_eq_nil_iff]
    exact Nat.not_le.mpr hlt

theorem wf_cons : ∀ {r : List FieldRange} {f : FieldRange}, WellFormed (f :: r) →
    f.begin < f.stop ∧ (∀ g ∈ r, f.stop ≤ g.begin) ∧ (f.stop = kInf → r = []) ∧ WellFormed r
  | [], _, h => ⟨h, nofun, fun _ => rfl, trivial⟩
  | g :: r, f, ⟨h1, h2, h3, h4⟩ =>
    have ⟨k1, k2, _, _⟩ := wf_cons h4
    ⟨h1, fun a ha => by
      rcases List.mem_cons.mp ha with rfl | ha
      · exact h2
      · exact Nat.le_trans h2 (Nat.le_trans (Nat.le_of_lt k1) (k2 a ha)),
     fun e => absurd e h3, h4⟩

theorem wf_all_lt : ∀ {fs : List FieldRange}, WellFormed fs → ∀ f ∈ fs, f.begin < f.stop
  | g :: r, h, f, hf => by
    rcases List.mem_cons.mp hf with rfl | hf
    · exact (wf_cons h).1
    · exact wf_all_lt (wf_cons h).2.2.2 f hf

theorem selected_eq_take {F : List (List UInt8)} {f : FieldRange} (h : f.stop = kInf → F.length ≤ kInf) :
    selected F f = (F.drop f.begin).take (f.stop - f.begin) := by
  unfold selected
  split
  · rename_i hs
    have hs := eq_of_beq hs
    rw [List.take_of_length_le (by rw [List.length_drop, hs]; exact Nat.sub_le_sub_right (h hs) _)]
  · rfl

theorem selected_eq_nil {F : List (List UInt8)} {g : FieldRange} (h : F.length ≤ g.begin) :
    selected F g = [] := by
  unfold selected
  rw [List.drop_eq_nil_iff.mpr h, List.take_nil, ite_self]

theorem mem_of_mem_selected {F : List (List UInt8)} {f : FieldRange} {x} (h : x ∈ selected F f) :
    x ∈ F := by
  unfold selected at h
  split at h
  · exact List.mem_of_mem_drop h
  · exact List.mem_of_mem_drop (List.mem_of_mem_take h)

theorem selected_ne_nil {F : List (List UInt8)} {f : FieldRange} (hb : f.begin < F.length)
    (hs : f.begin < f.stop) : selected F f ≠ [] := by
  unfold selected
  split
  · rw [Ne, List.drop_eq_nil_iff]
    exact Nat.not_le.mpr hb
  · rw [Ne, List.take_eq_nil_iff, List.drop_eq_nil_iff]
    exact fun h => h.elim (Nat.sub_ne_zero_of_lt hs) (Nat.not_le.mpr hb)

theorem rangeFieldsFrom_spec {d line} (fs : List FieldRange) : ∀ {i b}, FieldStart d line i b →
    WellFormed fs → (∀ f ∈ fs, i ≤ f.begin) →
    rangeFieldsFrom line d fs i b = fs.filterMap (cutRange d (splitFields d line)) := by
  induction fs with
  | nil => exact fun _ _ _ => rfl
  | cons f r ih =>
    intro i b hI hwf hi
    have hib : i ≤ f.begin := hi f (.head _)
    obtain ⟨hfl, hge, hinf, hwr⟩ := wf_cons hwf
    -- once the line is exhausted no later range finds a field
    have hnil : (splitFields d line).length ≤ f.stop →
        r.filterMap (cutRange d (splitFields d line)) = [] := fun hF =>
      List.filterMap_eq_nil_iff.mpr fun g hg => if_neg (Nat.not_lt.mpr (Nat.le_trans hF (hge g hg)))
    rw [rangeFieldsFrom, Nat.max_eq_right hib, List.filterMap_cons, cutRange]
    rcases skipFields_cases hI (Nat.add_sub_cancel' hib) with ⟨hb1, h1⟩ | ⟨b1, hb1, h1⟩
    · rw [hb1, if_neg (Nat.not_lt.mpr h1), hnil (Nat.le_trans h1 (Nat.le_of_lt hfl))]
    · rw [hb1, if_pos h1.lt]
      simp only
      by_cases hs : f.stop = kInf
      · rw [hinf hs, if_pos (beq_iff_eq.mpr hs), selected, if_pos (beq_iff_eq.mpr hs),
          h1.join_drop, slice, List.take_length]
        rfl
      · rw [if_neg (mt beq_iff_eq.mp hs), takeFields_eq, selected_eq_take (fun e => absurd e hs)]
        rcases skipFields_cases h1 (Nat.add_sub_cancel' (Nat.le_of_lt hfl)) with ⟨hb2, h2⟩ | ⟨b2, hb2, h2⟩
        · rw [hb2, hnil h2,
            List.take_of_length_le (by rw [List.length_drop]; exact Nat.sub_le_sub_right h2 _),
            h1.join_drop, slice, List.take_length]
        · rw [hb2]
          simp only
          rw [h1.slice_eq_join h2 hfl, Nat.max_eq_right (Nat.le_of_lt hfl), ih h2 hwr hge]

/-- IndividualFields reads an open range as `kInf - begin` fields: `hF`. -/
theorem individualFieldsFrom_spec {d line} (hF : (splitFields d line).length ≤ kInf)
    (fs : List FieldRange) : ∀ {i b}, FieldStart d line i b →
    WellFormed fs → (∀ f ∈ fs, i ≤ f.begin) →
    individualFieldsFrom line d fs i b = fs.flatMap (selected (splitFields d line)) := by
  induction fs with
  | nil => exact fun _ _ _ => rfl
  | cons f r ih =>
    intro i b hI hwf hi
    have hib : i ≤ f.begin := hi f (.head _)
    obtain ⟨hfl, hge, -, hwr⟩ := wf_cons hwf
    have hnil : (splitFields d line).length ≤ f.stop →
        r.flatMap (selected (splitFields d line)) = [] := fun hF =>
      List.flatMap_eq_nil_iff.mpr fun g hg => selected_eq_nil (Nat.le_trans hF (hge g hg))
    rw [individualFieldsFrom, Nat.max_eq_right hib, List.flatMap_cons]
    rcases skipFields_cases hI (Nat.add_sub_cancel' hib) with ⟨hb1, h1⟩ | ⟨b1, hb1, h1⟩
    · rw [hb1, selected_eq_nil h1, hnil (Nat.le_trans h1 (Nat.le_of_lt hfl))]
      rfl
    · rw [hb1]
      simp only
      rw [takeIndividual_spec _ h1, ← selected_eq_take (fun _ => hF)]
      rcases skipFields_cases h1 (Nat.add_sub_cancel' (Nat.le_of_lt hfl)) with ⟨hb2, h2⟩ | ⟨b2, hb2, h2⟩
      · rw [hb2, hnil h2, List.append_nil]
      · rw [hb2]
        simp only
        rw [Nat.max_eq_right (Nat.le_of_lt hfl), ih h2 hwr hge]

theorem splitFields_join_selected {d : UInt8} {l : List UInt8} {f : FieldRange} (hs : f.begin < f.stop)
    (hb : f.begin < (splitFields d l).length) :
    splitFields d (join d (selected (splitFields d l) f)) = selected (splitFields d l) f :=
  splitFields_join d _ (selected_ne_nil hb hs)
    fun x hx => not_mem_of_mem_splitFields d l x (mem_of_mem_selected hx)

theorem cutSelect_eq_map {d : UInt8} {F : List (List UInt8)} : ∀ {ranges : List FieldRange},
    (∀ f ∈ ranges, f.begin < F.length) →
    ranges.filterMap (cutRange d F) = ranges.map (fun f => join d (selected F f))
  | [], _ => rfl
  | f :: r, h => by
    rw [List.filterMap_cons, List.map_cons, cutRange, if_pos (h f (.head _)),
      cutSelect_eq_map (fun g hg => h g (.tail _ hg))]

theorem containsAll_begin_lt {ranges d l} (hw : WellFormed ranges) (h : ContainsAll ranges d l) :
    ∀ f ∈ ranges, f.begin < (splitFields d l).length := by
  intro f hf
  have h1 := h f hf
  have h2 := wf_all_lt hw f hf
  split at h1
  · exact h1
  · exact Nat.lt_of_lt_of_le h2 h1

theorem cutSelect_eq_iff {l1 l2 : List UInt8} {ranges : List FieldRange} {d : UInt8}
    (h : WellFormed ranges) (hb1 : ∀ f ∈ ranges, f.begin < (splitFields d l1).length)
    (hb2 : ∀ f ∈ ranges, f.begin < (splitFields d l2).length) :
    cutSelect ranges d l1 = cutSelect ranges d l2 ↔
      ∀ f ∈ ranges, selected (splitFields d l1) f = selected (splitFields d l2) f := by
  rw [cutSelect, cutSelect, cutSelect_eq_map hb1, cutSelect_eq_map hb2, List.map_inj_left]
  exact forall₂_congr fun f hf => ⟨fun e => by
    rw [← splitFields_join_selected (wf_all_lt h f hf) (hb1 f hf), e,
      splitFields_join_selected (wf_all_lt h f hf) (hb2 f hf)], congrArg _⟩

/-! DefragmentFields.  For non-empty ranges that end by `kInf` (`Valid`), in the order of their `begin` (`SortedB`),
pairwise disjoint (`Disj`) is the same as every range ending before the later ones begin (`Chain`).  The merge loop
fails exactly when `Chain` does, and otherwise only glues ranges that touch. -/

def Valid (f : FieldRange) : Prop := f.begin < f.stop ∧ f.stop ≤ kInf
abbrev SortedB (l : List FieldRange) : Prop := l.Pairwise (fun a b => a.begin ≤ b.begin)
abbrev Chain (l : List FieldRange) : Prop := l.Pairwise (fun a b => a.stop ≤ b.begin)
def Disj (f g : FieldRange) : Prop := ¬ ∃ k, inRange k f ∧ inRange k g

theorem insertSorted_perm (f : FieldRange) : ∀ l, (insertSorted f l).Perm (f :: l)
  | [] => .refl _
  | g :: gs => by
    rw [insertSorted]
    split
    · exact .refl _
    · exact ((insertSorted_perm f gs).cons g).trans (.swap f g gs)

theorem sortRanges_perm : ∀ fs, (sortRanges fs).Perm fs
  | [] => .refl _
  | f :: fs => (insertSorted_perm f _).trans ((sortRanges_perm fs).cons f)

theorem insertSorted_sorted (f : FieldRange) : ∀ l, SortedB l → SortedB (insertSorted f l)
  | [], _ => List.pairwise_singleton _ _
  | g :: gs, h => by
    have ⟨h1, h2⟩ := List.pairwise_cons.mp h
    rw [insertSorted]
    split
    · rename_i hlt
      exact List.pairwise_cons.mpr ⟨List.forall_mem_cons.mpr
        ⟨Nat.le_of_lt hlt, fun a ha => Nat.le_trans (Nat.le_of_lt hlt) (h1 a ha)⟩, h⟩
    · rename_i hge
      refine List.pairwise_cons.mpr ⟨fun a ha => ?_, insertSorted_sorted f gs h2⟩
      rcases List.mem_cons.mp ((insertSorted_perm f gs).mem_iff.mp ha) with rfl | ha
      · exact Nat.le_of_not_lt hge
      · exact h1 a ha

theorem sortRanges_sorted : ∀ fs, SortedB (sortRanges fs)
  | [] => .nil
  | f :: fs => insertSorted_sorted f _ (sortRanges_sorted fs)

theorem inRange_merge {f g : FieldRange} (hf : f.begin < f.stop) (hg : Valid g) (he : f.stop = g.begin)
    (k : Nat) : inRange k ⟨f.begin, g.stop⟩ ↔ inRange k f ∨ inRange k g := by
  have hlt : f.stop < g.stop := he ▸ hg.1
  refine ⟨fun ⟨a, b⟩ => ?_, ?_⟩
  · rcases Nat.lt_or_ge k f.stop with h | h
    · exact .inl ⟨a, .inl h⟩
    · exact .inr ⟨he ▸ h, b⟩
  · rintro (⟨a, b⟩ | ⟨a, b⟩)
    · exact ⟨a, .inl (b.elim (Nat.lt_trans · hlt) fun e =>
        absurd e (Nat.ne_of_lt (Nat.lt_of_lt_of_le hlt hg.2)))⟩
    · exact ⟨Nat.le_trans (Nat.le_of_lt hf) (he ▸ a), b⟩

theorem chain_cons_cons {f g : FieldRange} {rest} (hs : SortedB (g :: rest)) :
    Chain (f :: g :: rest) ↔ f.stop ≤ g.begin ∧ Chain (g :: rest) := by
  refine List.pairwise_cons.trans (and_congr_left fun _ => ⟨fun h => h g (.head _), fun h a ha => ?_⟩)
  rcases List.mem_cons.mp ha with rfl | ha
  · exact h
  · exact Nat.le_trans h ((List.pairwise_cons.mp hs).1 a ha)

theorem mergeSorted_eq_none_iff : ∀ (L : List FieldRange), SortedB L → (mergeSorted L = none ↔ ¬ Chain L) := by
  intro L
  fun_induction mergeSorted L with
  | case1 => exact fun _ => iff_of_false nofun (not_not_intro .nil)
  | case2 f => exact fun _ => iff_of_false nofun (not_not_intro (List.pairwise_singleton _ _))
  | case3 f g rest hgt =>
    intro hs
    exact iff_of_true rfl fun hc =>
      Nat.not_le.mpr hgt ((chain_cons_cons (List.pairwise_cons.mp hs).2).mp hc).1
  | case4 f g rest hgt heq ih =>
    intro hs
    have ⟨hs1, hs2⟩ := List.pairwise_cons.mp hs
    rw [ih (List.pairwise_cons.mpr ⟨fun a ha => hs1 a (.tail _ ha), (List.pairwise_cons.mp hs2).2⟩),
      chain_cons_cons hs2, and_iff_right (Nat.le_of_eq (eq_of_beq heq)), Chain, Chain,
      List.pairwise_cons, List.pairwise_cons]
  | case5 f g rest hgt hne ih =>
    intro hs
    have hs2 := (List.pairwise_cons.mp hs).2
    rw [Option.map_eq_none_iff, ih hs2, chain_cons_cons hs2, and_iff_right (Nat.le_of_not_lt hgt)]

/-- The clause on the first `begin` carries the induction. -/
theorem mergeSorted_some : ∀ (L : List FieldRange) {gs}, (∀ f ∈ L, Valid f) → mergeSorted L = some gs →
    WellFormed gs ∧ (∀ k, (∃ g ∈ gs, inRange k g) ↔ ∃ f ∈ L, inRange k f) ∧
      gs.head?.map (·.begin) = L.head?.map (·.begin) := by
  intro L
  fun_induction mergeSorted L with
  | case1 => rintro _ _ ⟨⟩; exact ⟨trivial, fun _ => Iff.rfl, rfl⟩
  | case2 f => rintro _ hv ⟨⟩; exact ⟨(hv f (.head _)).1, fun _ => Iff.rfl, rfl⟩
  | case3 => exact fun _ => nofun
  | case4 f g rest hgt heq ih =>
    intro gs hv hm
    have heq' : f.stop = g.begin := eq_of_beq heq
    have hvf := hv f (.head _)
    have hvg := hv g (.tail _ (.head _))
    obtain ⟨h1, h2, h3⟩ := ih (List.forall_mem_cons.mpr
      ⟨⟨Nat.lt_trans hvf.1 (heq' ▸ hvg.1), hvg.2⟩, fun x hx => hv x (.tail _ (.tail _ hx))⟩) hm
    refine ⟨h1, fun k => ?_, h3⟩
    rw [h2 k]
    simp only [List.mem_cons, exists_eq_or_imp, inRange_merge hvf.1 hvg heq' k, or_assoc]
  | case5 f g rest hgt hne ih =>
    intro gs hv hm
    obtain ⟨gs', hm', rfl⟩ := Option.map_eq_some_iff.mp hm
    have hlt : f.stop < g.begin :=
      Nat.lt_of_le_of_ne (Nat.le_of_not_lt hgt) (mt beq_iff_eq.mpr hne)
    have hvg := hv g (.tail _ (.head _))
    obtain ⟨h1, h2, h3⟩ := ih (fun x hx => hv x (.tail _ hx)) hm'
    refine ⟨?_, fun k => ?_, rfl⟩
    · cases gs' with
      | nil => exact (hv f (.head _)).1
      | cons g0 r =>
        have h3 : g0.begin = g.begin := Option.some.inj h3
        exact ⟨(hv f (.head _)).1, h3 ▸ Nat.le_of_lt hlt,
          Nat.ne_of_lt (Nat.lt_of_lt_of_le (Nat.lt_trans hlt hvg.1) hvg.2), h1⟩
    · simp only [List.mem_cons (b := f), exists_eq_or_imp, h2 k]

theorem defragment_sound' (fs gs : List FieldRange) (hfs : ∀ f ∈ fs, f.begin < f.stop ∧ f.stop ≤ kInf)
    (h : defragment fs = some gs) :
    WellFormed gs ∧ ∀ k, (∃ g ∈ gs, inRange k g) ↔ (∃ f ∈ fs, inRange k f) := by
  have hp := sortRanges_perm fs
  obtain ⟨hw, hk, -⟩ := mergeSorted_some (sortRanges fs) (fun f hf => hfs f (hp.mem_iff.mp hf)) h
  refine ⟨hw, fun k => ?_⟩
  simp only [hk k, hp.mem_iff]

theorem disj_iff_of_sorted {f g : FieldRange} (hg : Valid g) (hs : f.begin ≤ g.begin) :
    Disj f g ↔ f.stop ≤ g.begin := by
  unfold Valid at hg
  unfold Disj inRange
  constructor
  · intro h
    rcases Nat.lt_or_ge g.begin f.stop with hlt | hge
    · exact absurd ⟨g.begin, ⟨hs, Or.inl hlt⟩, ⟨Nat.le_refl _, Or.inl hg.1⟩⟩ h
    · exact hge
  · rintro h ⟨k, ⟨h1, h2⟩, ⟨h3, h4⟩⟩
    omega

theorem chain_iff_pairwise_disj {L : List FieldRange} (hs : SortedB L) (hv : ∀ f ∈ L, Valid f) :
    Chain L ↔ L.Pairwise Disj := by
  induction L with
  | nil => exact iff_of_true .nil .nil
  | cons f r ih =>
    have ⟨h1, h2⟩ := List.pairwise_cons.mp hs
    refine List.pairwise_cons.trans (Iff.trans (and_congr ?_ ?_) List.pairwise_cons.symm)
    · exact forall₂_congr fun a ha => (disj_iff_of_sorted (hv a (.tail _ ha)) (h1 a ha)).symm
    · exact ih h2 fun x hx => hv x (.tail _ hx)

theorem not_pairwise_disj_iff (fs : List FieldRange) :
    ¬ fs.Pairwise Disj ↔
      ∃ (i j : Nat) (f g : FieldRange), i < j ∧ fs[i]? = some f ∧ fs[j]? = some g ∧
        ∃ k, inRange k f ∧ inRange k g := by
  constructor
  · intro hn
    apply Classical.byContradiction
    intro hex
    apply hn
    rw [List.pairwise_iff_getElem]
    intro i j hi hj hij hov
    exact hex ⟨i, j, fs[i], fs[j], hij, List.getElem?_eq_getElem hi, List.getElem?_eq_getElem hj, hov⟩
  · rintro ⟨i, j, f, g, hij, hf, hg, hov⟩ hp
    rw [List.pairwise_iff_getElem] at hp
    obtain ⟨hi, rfl⟩ := List.getElem?_eq_some_iff.mp hf
    obtain ⟨hj, rfl⟩ := List.getElem?_eq_some_iff.mp hg
    exact hp i j hi hj hij hov

theorem defragment_rejects_overlap' (fs : List FieldRange)
    (hfs : ∀ f ∈ fs, f.begin < f.stop ∧ f.stop ≤ kInf) :
    defragment fs = none ↔
      ∃ (i j : Nat) (f g : FieldRange), i < j ∧ fs[i]? = some f ∧ fs[j]? = some g ∧
        ∃ k, inRange k f ∧ inRange k g := by
  have hp := sortRanges_perm fs
  -- sorted and disjoint is `Chain`; disjointness is symmetric, so sorting does not matter
  rw [← not_pairwise_disj_iff, ← hp.pairwise_iff (fun h ⟨k, h1, h2⟩ => h ⟨k, h2, h1⟩),
    ← chain_iff_pairwise_disj (sortRanges_sorted fs) (fun f hf => hfs f (hp.mem_iff.mp hf))]
  exact mergeSorted_eq_none_iff _ (sortRanges_sorted fs)

/-! ParseFields (`44` is `','`, `45` is `'-'`).  The loop and the cut LIST grammar accept the same spellings of an
item (`Shape`): `parseItem` reads one from the part between two commas, the loop reads one off the front of the string
and then wants a comma or the end (`Stop`).  So the loop is `mapM parseItem` over the parts (`parseLoop_eq`). -/

theorem digitsVal_eq (w : List UInt8) : ∀ acc n, digitsVal w acc n =
    ((w.takeWhile isDigit).foldl (fun a c => a * 10 + (c.toNat - 48)) acc,
      w.dropWhile isDigit, n + (w.takeWhile isDigit).length) := by
  induction w with
  | nil => intro acc n; rfl
  | cons c r ih =>
    intro acc n
    rw [digitsVal, List.takeWhile_cons, List.dropWhile_cons]
    cases isDigit c
    · rfl
    · simp only [if_true, ih, List.foldl_cons, List.length_cons, Nat.add_assoc, Nat.add_comm 1]

theorem consumeInt_eq (w : List UInt8) : consumeInt w =
    if w.takeWhile isDigit = [] then none
    else if value (w.takeWhile isDigit) ≥ kInf then none
    else some (value (w.takeWhile isDigit), w.dropWhile isDigit) := by
  unfold consumeInt
  rw [digitsVal_eq]
  simp only [value, Nat.zero_add, beq_iff_eq, List.length_eq_zero_iff]
  rfl

structure IsNumber (D : List UInt8) (n : Nat) : Prop where
  ne_nil : D ≠ []
  digit : ∀ x ∈ D, isDigit x = true
  value_eq : value D = n
  pos : 1 ≤ n
  lt : n < kInf

theorem number_eq_some {D : List UInt8} {n : Nat} : number D = some n ↔ IsNumber D n := by
  simp only [number, allDigits, Bool.and_eq_true, decide_eq_true_eq, Bool.not_eq_true',
    List.isEmpty_eq_false_iff, List.all_eq_true, Option.ite_none_right_eq_some, Option.some.injEq]
  exact ⟨fun ⟨⟨⟨⟨h1, h2⟩, h3⟩, h4⟩, h5⟩ => ⟨h1, h2, h5, h5 ▸ h3, h5 ▸ h4⟩,
    fun ⟨h1, h2, h5, h3, h4⟩ => ⟨⟨⟨⟨h1, h2⟩, h5 ▸ h3⟩, h5 ▸ h4⟩, h5⟩⟩

theorem number_nil : number [] = none := by decide

theorem consumeInt_append {D r : List UInt8} {n : Nat} (h : number D = some n)
    (hr : r.takeWhile isDigit = []) : consumeInt (D ++ r) = some (n, r) := by
  have hn := number_eq_some.mp h
  obtain ⟨e1, e2⟩ := takeWhile_append_stop hn.digit hr
  rw [consumeInt_eq, e1, e2, if_neg hn.ne_nil, hn.value_eq, if_neg (Nat.not_le.mpr hn.lt)]

theorem consumeInt_some {w r : List UInt8} {v : Nat} (h : consumeInt w = some (v, r)) (hv : v ≠ 0) :
    ∃ D, w = D ++ r ∧ number D = some v := by
  simp only [consumeInt_eq, Option.ite_none_left_eq_some, Option.some.injEq, Prod.mk.injEq] at h
  obtain ⟨h1, h2, rfl, rfl⟩ := h
  exact ⟨_, List.takeWhile_append_dropWhile.symm,
    number_eq_some.mpr ⟨h1, fun x hx => List.all_eq_true.mp List.all_takeWhile x hx, rfl,
      Nat.pos_of_ne_zero hv, Nat.lt_of_not_le h2⟩⟩

/-- `begin` of an item as the loop body of ParseFields reads it, with the rest of the string.  The model has this
    and `parseTail` as `let`s inside `parseLoop`; named, each gets lemmas of its own (`parseLoop_succ` ties them). -/
def parseHd (s : List UInt8) : Option (Nat × List UInt8) :=
  match s with
  | [] => none
  | c :: _ =>
    if c == 45 then some (0, s)
    else match consumeInt s with
      | none => none
      | some (v, r) => if v == 0 then none else some (v - 1, r)

/-- the `switch (*arg)` after `begin`. -/
def parseTail (b : Nat) (r : List UInt8) : Option (FieldRange × List UInt8) :=
  match r with
  | [] => some (⟨b, b + 1⟩, r)
  | 44 :: _ => some (⟨b, b + 1⟩, r)
  | 45 :: r2 =>
    match r2 with
    | [] => some (⟨b, kInf⟩, r2)
    | 44 :: _ => some (⟨b, kInf⟩, r2)
    | _ => match consumeInt r2 with
      | none => none
      | some (e, r3) => if e ≤ b then none else some (⟨b, e⟩, r3)
  | _ => none

theorem parseLoop_succ (fuel : Nat) (c : UInt8) (t : List UInt8) (acc : List FieldRange) :
    parseLoop (fuel + 1) (c :: t) acc =
      match parseHd (c :: t) with
      | none => none
      | some (b, r) =>
        match parseTail b r with
        | none => none
        | some (f, r') =>
          match r' with
          | [] => some (f :: acc).reverse
          | 44 :: r'' => parseLoop fuel r'' (f :: acc)
          | _ => none := by
  rw [parseLoop]
  rfl

/-- what the loop accepts after an item. -/
def Stop (r : List UInt8) : Prop := r = [] ∨ ∃ r', r = 44 :: r'

theorem Stop.takeWhile {p : UInt8 → Bool} (hp : p 44 = false) {r : List UInt8} (h : Stop r) :
    r.takeWhile p = [] := by
  rcases h with rfl | ⟨r', rfl⟩
  · rfl
  · exact List.takeWhile_cons_of_neg (Bool.eq_false_iff.mp hp)

/-- the spellings of an item. -/
inductive Shape : List UInt8 → Item → Prop
  | single {D n} : number D = some n → Shape D (.single n)
  | from {D n} : number D = some n → Shape (D ++ [45]) (.from n)
  | upto {D m} : number D = some m → Shape (45 :: D) (.upto m)
  | all : Shape [45] .all
  | range {D D2 n m} : number D = some n → number D2 = some m → n ≤ m →
      Shape (D ++ 45 :: D2) (.range n m)

theorem number_not_mem {D n} (h : number D = some n) {c : UInt8} (hc : isDigit c = false) : c ∉ D :=
  fun hm => by rw [(number_eq_some.mp h).digit c hm] at hc; cases hc

theorem number_isEmpty {D n} (h : number D = some n) : D.isEmpty = false :=
  List.isEmpty_eq_false_iff.mpr (number_eq_some.mp h).ne_nil

theorem parseItem_of_shape {it x} (h : Shape it x) : parseItem it = some x := by
  unfold parseItem splitOn
  cases h with
  | single hn =>
    rw [splitFields_of_not_mem _ _ (number_not_mem hn rfl)]
    simp only [hn, Option.map_some]
  | «from» hn =>
    rw [splitFields_append_delim _ _ _ (number_not_mem hn rfl)]
    simp [splitFields, hn, number_isEmpty hn]
  | upto hn =>
    rw [splitFields_cons_delim, splitFields_of_not_mem _ _ (number_not_mem hn rfl)]
    simp [hn, number_isEmpty hn]
  | all => decide
  | range h1 h2 hle =>
    rw [splitFields_append_delim _ _ _ (number_not_mem h1 rfl),
      splitFields_of_not_mem _ _ (number_not_mem h2 rfl)]
    simp [h1, h2, number_isEmpty h1, number_isEmpty h2, hle]

theorem shape_of_parseItem {it x} (h : parseItem it = some x) : Shape it x := by
  have hj := join_splitFields 45 it
  unfold parseItem splitOn at h
  split at h
  · rename_i a hs
    rw [hs] at hj
    subst hj
    obtain ⟨n, hn, rfl⟩ := Option.map_eq_some_iff.mp h
    exact .single hn
  · rename_i a b hs
    rw [hs] at hj
    subst hj
    -- the four branches of `parseItem` are: which of `a`, `b` is empty
    cases a with
    | nil =>
      cases b with
      | nil =>
        obtain rfl : Item.all = x := Option.some.inj h
        exact .all
      | cons c b =>
        obtain ⟨n, hn, rfl⟩ := Option.map_eq_some_iff.mp h
        exact .upto hn
    | cons c a =>
      cases b with
      | nil =>
        obtain ⟨n, hn, rfl⟩ := Option.map_eq_some_iff.mp h
        exact .from hn
      | cons c' b =>
        simp only [List.isEmpty_cons, Bool.and_self, Bool.false_eq_true, ↓reduceIte] at h
        split at h
        · rename_i n m hn hm
          split at h
          · cases h
            exact .range hn hm (by assumption)
          · cases h
        · cases h
  · cases h

theorem shape_not_mem_44 {it x} (h : Shape it x) : (44 : UInt8) ∉ it := by
  cases h with
  | single hn => exact number_not_mem hn rfl
  | «from» hn | upto hn => simp [number_not_mem hn (c := 44) rfl]
  | all => decide
  | range h1 h2 _ => simp [number_not_mem h1 (c := 44) rfl, number_not_mem h2 (c := 44) rfl]

theorem parseHd_number {D r : List UInt8} {n : Nat} (h : number D = some n)
    (hr : r.takeWhile isDigit = []) : parseHd (D ++ r) = some (n - 1, r) := by
  have hn := number_eq_some.mp h
  have hc := consumeInt_append h hr
  have h45 := number_not_mem h (c := 45) rfl
  obtain ⟨d, D', rfl⟩ := List.exists_cons_of_ne_nil hn.ne_nil
  rw [List.cons_append] at hc ⊢
  rw [parseHd, if_neg fun e => h45 (List.mem_cons.mpr (.inl (eq_of_beq e).symm)), hc]
  simp only
  rw [if_neg (mt beq_iff_eq.mp (Nat.ne_of_gt hn.pos))]

theorem parseTail_stop {b : Nat} {r : List UInt8} (h : Stop r) :
    parseTail b r = some (⟨b, b + 1⟩, r) := by
  rcases h with rfl | ⟨r', rfl⟩ <;> rfl

theorem parseTail_dash_stop {b : Nat} {r : List UInt8} (h : Stop r) :
    parseTail b (45 :: r) = some (⟨b, kInf⟩, r) := by
  rcases h with rfl | ⟨r', rfl⟩ <;> rfl

theorem parseTail_dash_number {b e : Nat} {D r : List UInt8} (h : number D = some e) (hbe : b < e)
    (hr : r.takeWhile isDigit = []) :
    parseTail b (45 :: (D ++ r)) = some (⟨b, e⟩, r) := by
  have hc := consumeInt_append h hr
  have h44 := number_not_mem h (c := 44) rfl
  obtain ⟨d, D', rfl⟩ := List.exists_cons_of_ne_nil (number_eq_some.mp h).ne_nil
  rw [List.cons_append] at hc ⊢
  simp only [parseTail]
  split
  · rename_i heq; cases heq
  · rename_i heq; cases heq; exact absurd (.head _) h44
  · rw [hc]
    simp only
    rw [if_neg (Nat.not_le.mpr hbe)]

theorem parse_of_shape {it x rem} (h : Shape it x) (hs : Stop rem) :
    ∃ b r, parseHd (it ++ rem) = some (b, r) ∧ parseTail b r = some (x.denote, rem) := by
  have hsh := hs.takeWhile (p := isDigit) rfl
  cases h with
  | @single D n hn =>
    refine ⟨_, _, parseHd_number hn hsh, ?_⟩
    rw [parseTail_stop hs, Item.denote, Nat.sub_add_cancel (number_eq_some.mp hn).pos]
  | @«from» D n hn =>
    refine ⟨n - 1, 45 :: rem, ?_, parseTail_dash_stop hs⟩
    rw [List.append_assoc]
    exact parseHd_number hn rfl
  | @upto D m hn =>
    exact ⟨0, 45 :: (D ++ rem), rfl, parseTail_dash_number hn (number_eq_some.mp hn).pos hsh⟩
  | all => exact ⟨0, 45 :: rem, rfl, parseTail_dash_stop hs⟩
  | @range D D2 n m h1 h2 hle =>
    refine ⟨n - 1, 45 :: (D2 ++ rem), ?_, ?_⟩
    · rw [List.append_assoc]
      exact parseHd_number h1 rfl
    · exact parseTail_dash_number h2
        (Nat.lt_of_lt_of_le (Nat.sub_lt (number_eq_some.mp h1).pos Nat.one_pos) hle) hsh

theorem parseHd_some {s r : List UInt8} {b : Nat} : parseHd s = some (b, r) →
    (∃ t, s = 45 :: t ∧ b = 0 ∧ r = s) ∨
    (∃ D, s = D ++ r ∧ number D = some (b + 1)) := by
  fun_cases parseHd s with
  | case1 => nofun
  | case2 c t hc => rintro ⟨⟩; exact .inl ⟨t, by rw [eq_of_beq hc], rfl, rfl⟩
  | case3 c t _ hci => rw [hci]; nofun
  | case4 c t _ v r0 hv hci => rw [hci]; simp only [if_pos hv]; nofun
  | case5 c t _ v r0 hv hci =>
    rw [hci]
    simp only [if_neg hv]
    rintro ⟨⟩
    have hv : v ≠ 0 := mt beq_iff_eq.mpr hv
    rw [Nat.sub_add_cancel (Nat.pos_of_ne_zero hv)]
    exact .inr (consumeInt_some hci hv)

theorem parseTail_some {b : Nat} {r r' : List UInt8} {f : FieldRange} :
    parseTail b r = some (f, r') →
    (r = r' ∧ f = ⟨b, b + 1⟩) ∨ (r = 45 :: r' ∧ f = ⟨b, kInf⟩) ∨
    (∃ D e, r = 45 :: (D ++ r') ∧ number D = some e ∧ b < e ∧ f = ⟨b, e⟩) := by
  fun_cases parseTail b r with
  | case1 | case2 => rintro ⟨⟩; exact .inl ⟨rfl, rfl⟩
  | case3 | case4 => rintro ⟨⟩; exact .inr (.inl ⟨rfl, rfl⟩)
  | case5 r2 hci => rw [hci]; nofun
  | case6 r2 e r3 hci hle => rw [hci]; simp only [if_pos hle]; nofun
  | case7 r2 e r3 hci hbe =>
    rw [hci]
    simp only [if_neg hbe]
    rintro ⟨⟩
    have hbe := Nat.lt_of_not_le hbe
    obtain ⟨D, rfl, hn⟩ := consumeInt_some hci (Nat.ne_of_gt (Nat.zero_lt_of_lt hbe))
    exact .inr (.inr ⟨D, e, rfl, hn, hbe, rfl⟩)
  | case8 => nofun

theorem shape_of_parse {s r r' : List UInt8} {b : Nat} {f : FieldRange}
    (h1 : parseHd s = some (b, r)) (h2 : parseTail b r = some (f, r')) (hs : Stop r') :
    ∃ it x, s = it ++ r' ∧ Shape it x := by
  rcases parseHd_some h1 with ⟨t, rfl, rfl, rfl⟩ | ⟨D, rfl, hn⟩
  · rcases parseTail_some h2 with ⟨e, _⟩ | ⟨e, _⟩ | ⟨D2, e, he, hn2, hlt, _⟩
    · subst e
      rcases hs with hs | ⟨_, hs⟩ <;> cases hs
    · cases e
      exact ⟨[45], .all, rfl, .all⟩
    · cases he
      exact ⟨45 :: D2, .upto e, rfl, .upto hn2⟩
  · rcases parseTail_some h2 with ⟨rfl, _⟩ | ⟨rfl, _⟩ | ⟨D2, e, rfl, hn2, hlt, _⟩
    · exact ⟨D, _, rfl, .single hn⟩
    · exact ⟨D ++ [45], _, (List.append_assoc D [45] r').symm, .from hn⟩
    · exact ⟨D ++ 45 :: D2, _, (List.append_assoc D (45 :: D2) r').symm, .range hn hn2 hlt⟩

theorem takeWhile_comma {it rem : List UInt8} (h44 : 44 ∉ it) (hs : Stop rem) :
    (it ++ rem).takeWhile (· != 44) = it :=
  (takeWhile_append_stop (bne_of_not_mem h44) (hs.takeWhile rfl)).1

theorem parseLoop_item {it rem : List UInt8} (h44 : 44 ∉ it) (hs : Stop rem) (hne : it ++ rem ≠ [])
    (fuel : Nat) (acc : List FieldRange) :
    parseLoop (fuel + 1) (it ++ rem) acc =
      match parseItem it with
      | none => none
      | some x =>
        match (generalizing := false) rem with
        | [] => some (x.denote :: acc).reverse
        | _ :: r => parseLoop fuel r (x.denote :: acc) := by
  obtain ⟨c, t, hct⟩ := List.exists_cons_of_ne_nil hne
  rw [hct, parseLoop_succ, ← hct]
  cases hp : parseItem it with
  | some x =>
    obtain ⟨b, r, h1, h2⟩ := parse_of_shape (shape_of_parseItem hp) hs
    rw [h1]
    simp only
    rw [h2]
    rcases hs with rfl | ⟨r, rfl⟩ <;> rfl
  | none =>
    simp only
    split
    · rfl
    · rename_i b r hhd
      split
      · rfl
      · rename_i f r' htl
        -- an item the loop accepts up to a `Stop` is a spelling, and `it` is the part before the comma
        have : ¬ Stop r' := fun hs' => by
          obtain ⟨it', x, he, hsh⟩ := shape_of_parse hhd htl hs'
          have := takeWhile_comma (shape_not_mem_44 hsh) hs'
          rw [← he, takeWhile_comma h44 hs] at this
          rw [this, parseItem_of_shape hsh] at hp
          cases hp
        split
        · exact absurd (.inl rfl) this
        · exact absurd (.inr ⟨_, rfl⟩) this
        · rfl

/-- The trailing comma as the loop sees it: `while (*arg)` ends at an empty rest whether or not an item came
    before.  `cutParse` asks for one (`length ≥ 2`), which matters for the empty string only: `cutParse_eq`. -/
def trim (parts : List (List UInt8)) : List (List UInt8) :=
  if parts.getLast? = some [] then parts.dropLast else parts

theorem cutParse_eq {s : List UInt8} (hs : s ≠ []) :
    cutParse s = (trim (splitFields 44 s)).mapM parseItem := by
  have h1 := splitFields_ne_nil 44 s
  -- the guard `length ≥ 2` matters on `[[]]` only, and that is the empty string
  have h2 : splitFields 44 s ≠ [[]] := fun e =>
    hs ((join_splitFields 44 s).symm.trans (congrArg (join 44) e))
  unfold cutParse splitOn trim
  rw [if_neg (mt List.isEmpty_iff.mp hs)]
  generalize splitFields 44 s = parts at h1 h2
  match parts, h1, h2 with
  | [p], _, h2 =>
    have : p ≠ [] := fun e => h2 (by rw [e])
    simp [this]
  | p :: q :: rest, _, _ => simp

/-- The induction runs over the comma-separated parts, not over the string. -/
theorem parseLoop_join (parts : List (List UInt8)) : ∀ (fuel : Nat) (acc : List FieldRange),
    parts ≠ [] → (∀ p ∈ parts, 44 ∉ p) → (join 44 parts).length < fuel →
    parseLoop fuel (join 44 parts) acc =
      ((trim parts).mapM parseItem).map (fun xs => acc.reverse ++ xs.map Item.denote) := by
  induction parts with
  | nil => exact fun _ _ h => absurd rfl h
  | cons p rest ih =>
    intro fuel acc _ h44 hlen
    cases fuel with
    | zero => exact absurd hlen (Nat.not_lt_zero _)
    | succ fuel =>
      cases rest with
      | nil =>
        cases p with
        | nil => exact congrArg some (List.append_nil _).symm  -- `trim [[]] = []`, and the loop ends at once
        | cons c t =>
          have := parseLoop_item (h44 _ (.head _)) (.inl rfl) (by simp) fuel acc
          rw [List.append_nil] at this
          rw [join, this]
          cases hp : parseItem (c :: t) <;> simp [trim, hp]
      | cons q rest =>
        rw [join, List.length_append, List.length_cons] at hlen
        rw [join, parseLoop_item (h44 p (.head _)) (.inr ⟨_, rfl⟩) (by simp), trim, List.getLast?_cons_cons,
          List.dropLast_cons_cons, ← apply_ite (p :: ·), ← trim, List.mapM_cons]
        cases parseItem p with
        | none => rfl
        | some x =>
          simp only
          rw [ih fuel _ (by simp) (fun y hy => h44 y (.tail _ hy)) (by omega)]
          cases List.mapM parseItem (trim (q :: rest)) <;> simp

theorem parseLoop_eq {s : List UInt8} (hs : s ≠ []) {fuel : Nat} (hf : s.length < fuel)
    (acc : List FieldRange) :
    parseLoop fuel s acc = (cutParse s).map (fun xs => acc.reverse ++ xs.map Item.denote) := by
  have := parseLoop_join (splitFields 44 s) fuel acc (splitFields_ne_nil _ _)
    (not_mem_of_mem_splitFields 44 _) (by rwa [join_splitFields])
  rwa [join_splitFields, ← cutParse_eq hs] at this

end PV.Lemmas.Fields
