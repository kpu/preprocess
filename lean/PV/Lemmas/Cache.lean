import PV.Model.Cache
import PV.Lemmas.FirstOcc
/-
cache (C04).  Every entry of the map holds the child's answer to the first line with its key; so the output is
`a (key l)` for each line `l`, where `a k` is that answer (`output_spec`).
-/
namespace PV.Lemmas.Cache
open PV.Cache PV.Spec.FirstOcc PV.Lemmas.FirstOcc

theorem input_cons (key : Line → Nat) (seen : List Nat) (l : Line) (ls : List Line) :
    input key seen (l :: ls) =
      if key l ∈ seen then ((input key seen ls).1, (key l, false) :: (input key seen ls).2)
      else (l :: (input key (key l :: seen) ls).1, (key l, true) :: (input key (key l :: seen) ls).2) := by
  rw [input, List.contains_eq_mem]
  by_cases h : key l ∈ seen
  · simp only [h, decide_true, Bool.not_true, Bool.false_eq_true, if_false, if_true]
  · simp only [h, decide_false, Bool.not_false, if_true, if_false]

theorem input_fst (key : Line → Nat) (seen : List Nat) (ls : List Line) :
    (input key seen ls).1 = firstOccGo key seen ls := by
  induction ls generalizing seen with
  | nil => rfl
  | cons l ls ih =>
    rw [input_cons, firstOccGo_cons]
    split
    · exact ih seen
    · exact congrArg _ (ih _)

theorem output_spec (key : Line → Nat) (child : Line → Line) (a : Nat → Line) (rest : List Line) :
    ∀ filled : List (Nat × Line), (∀ p ∈ filled, p.2 = a p.1) →
      (∀ l ∈ (input key (filled.map (·.1)) rest).1, child l = a (key l)) →
      output filled ((input key (filled.map (·.1)) rest).1.map child) (input key (filled.map (·.1)) rest).2 =
        some (rest.map fun l => a (key l)) := by
  induction rest with
  | nil => intro _ _ _; rfl
  | cons l ls ih =>
    intro filled hf hc
    rw [input_cons] at hc ⊢
    cases hfind : filled.find? (·.1 == key l) with
    | some p =>
      have hp := List.mem_of_find?_eq_some hfind
      have hk := List.find?_some hfind
      rw [beq_iff_eq] at hk
      rw [if_pos (List.mem_map.2 ⟨p, hp, hk⟩)] at hc ⊢
      simp only [output, hfind, ih filled hf hc, Option.map_some, List.map_cons, hf p hp, hk]
    | none =>
      have hm : key l ∉ filled.map (·.1) := fun h => by
        obtain ⟨p, hp, hk⟩ := List.mem_map.1 h
        exact List.find?_eq_none.1 hfind p hp (beq_iff_eq.2 hk)
      rw [if_neg hm] at hc ⊢
      obtain ⟨hl, hc'⟩ := List.forall_mem_cons.1 hc
      have ih' := ih ((key l, child l) :: filled) (List.forall_mem_cons.2 ⟨hl, hf⟩) hc'
      rw [List.map_cons, hl] at ih'
      simp only [output, hfind, List.map_cons, hl, ih', Option.map_some]

end PV.Lemmas.Cache
