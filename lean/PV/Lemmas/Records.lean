import PV.Spec.Records
import PV.Lemmas.Basic
/-
`splitRecords` one record at a time: a delimiter-free piece up to the next delimiter is the next record
(`splitRecords_delim`), a delimiter-free rest is the last one; `stripOneCr` is `ReadLine`'s `strip_cr` on one record.
-/
namespace PV.Lemmas.Records
open PV.Spec.Records

theorem splitGo_append (delim : UInt8) (stripCr : Bool) (pre post : List UInt8) (hpre : delim ∉ pre) :
    ∀ cur, splitGo delim stripCr (pre ++ post) cur = splitGo delim stripCr post (pre.reverse ++ cur) := by
  induction pre with
  | nil => intro cur; rfl
  | cons b r ih =>
    intro cur
    rw [List.cons_append, splitGo, if_neg fun e : (b == delim) = true => hpre (eq_of_beq e ▸ .head _),
      ih fun h => hpre (.tail _ h), List.reverse_cons, List.append_assoc]
    rfl

theorem splitRecords_nil (delim : UInt8) (stripCr : Bool) : splitRecords delim stripCr [] = [] := rfl

theorem splitRecords_delim (delim : UInt8) (stripCr : Bool) (pre post : List UInt8) (hpre : delim ∉ pre) :
    splitRecords delim stripCr (pre ++ delim :: post)
      = stripOneCr stripCr pre :: splitRecords delim stripCr post := by
  rw [splitRecords, splitGo_append delim stripCr pre _ hpre, splitGo, if_pos BEq.rfl, List.append_nil,
    List.reverse_reverse]
  rfl

theorem splitRecords_nodelim (delim : UInt8) (stripCr : Bool) (pre : List UInt8) (hpre : delim ∉ pre)
    (hne : pre ≠ []) :
    splitRecords delim stripCr pre = [pre] := by
  have := splitGo_append delim stripCr pre [] hpre []
  rw [List.append_nil, List.append_nil] at this
  rw [splitRecords, this, splitGo, if_neg (by rwa [List.isEmpty_reverse, List.isEmpty_iff]), List.reverse_reverse]

theorem stripOneCr_concat (stripCr : Bool) (r : List UInt8) (a : UInt8) :
    stripOneCr stripCr (r ++ [a]) = if stripCr && a == 13 then r else r ++ [a] := by
  simp only [stripOneCr, List.getLast?_concat, List.dropLast_concat, Option.some_beq_some]

/-- `ReadLine`'s `subtractCr` index computation is `stripOneCr` on the record `[p, n)`. -/
theorem stripOneCr_take (stripCr : Bool) (l : List UInt8) (p n : Nat) (hn : n ≤ l.length) :
    stripOneCr stripCr ((l.take n).drop p) =
      (l.take (n - if stripCr && decide (n > p) && l.getD (n - 1) 0 == 13 then 1 else 0)).drop p := by
  by_cases hp : n > p
  · obtain ⟨m, rfl⟩ := Nat.exists_eq_add_one_of_ne_zero (Nat.ne_zero_of_lt hp)
    have hm : m < l.length := hn
    have hd : ((l.take m ++ [l[m]]).drop p) = (l.take m).drop p ++ [l[m]] :=
      List.drop_append_of_le_length (by rw [List.length_take_of_le (Nat.le_of_lt hm)]; exact Nat.le_of_lt_succ hp)
    rw [List.take_succ_eq_append_getElem hm, hd, stripOneCr_concat, decide_eq_true hp, Bool.and_true,
      Nat.add_sub_cancel, List.getD_eq_getElem?_getD, List.getElem?_eq_getElem hm, Option.getD_some]
    split
    · rfl
    · rw [Nat.sub_zero, List.take_succ_eq_append_getElem hm, hd]
  · have h0 : ∀ k, k ≤ n → (l.take k).drop p = [] := fun k hk =>
      List.drop_eq_nil_of_le (Nat.le_trans (List.length_take_le _ _) (Nat.le_trans hk (Nat.le_of_not_lt hp)))
    rw [h0 _ (Nat.sub_le _ _), h0 n (Nat.le_refl _)]
    cases stripCr <;> rfl

theorem splitRecords_lossless (delim : UInt8) (bs : List UInt8) :
    (splitRecords delim false (bs ++ [delim])).flatMap (· ++ [delim]) = bs ++ [delim] := by
  induction bs using fields_induction delim with
  | last a h => rw [splitRecords_delim _ _ _ _ h]; exact List.append_nil _
  | more a r h ih =>
    rw [List.append_assoc, List.cons_append, splitRecords_delim _ _ _ _ h, List.flatMap_cons, ih,
      List.append_assoc]
    rfl

theorem stripOneCr_true (r : List UInt8) (h : (13 : UInt8) ∉ r) : stripOneCr true r = r :=
  if_neg fun hh => h (List.mem_of_getLast? (beq_iff_eq.mp hh))

theorem splitRecords_flatMap (delim : UInt8) (sc : Bool) (rs : List (List UInt8))
    (h : ∀ r ∈ rs, delim ∉ r) :
    splitRecords delim sc (rs.flatMap (· ++ [delim])) = rs.map (stripOneCr sc) := by
  induction rs with
  | nil => rfl
  | cons r rs ih =>
    rw [List.flatMap_cons, List.append_assoc, List.singleton_append,
      splitRecords_delim _ _ _ _ (h r List.mem_cons_self),
      ih (fun r' hr' => h r' (List.mem_cons_of_mem _ hr')), List.map_cons]

end PV.Lemmas.Records

-- Named in `PV.Lemmas.Base64`, the namespace Docenc opens; it stands in this file because it is a fact of `Spec.Records` alone.
theorem PV.Lemmas.Base64.stripOneCr_false (r : List UInt8) : PV.Spec.Records.stripOneCr false r = r := rfl
