import PV.Spec.FirstOcc
/-
`firstOccGo` as a list function, and parallel mode as two such passes, by the first side and then by the second side
over the survivors (`parGo_eq`).
-/
namespace PV.Lemmas.FirstOcc
open PV.Spec.FirstOcc

variable {α β : Type} [DecidableEq β]

theorem firstOccGo_nil (f : α → β) (seen : List β) : firstOccGo f seen [] = [] := rfl

theorem firstOccGo_cons (f : α → β) (seen : List β) (l : α) (ls : List α) :
    firstOccGo f seen (l :: ls) =
      if f l ∈ seen then firstOccGo f seen ls else l :: firstOccGo f (f l :: seen) ls := rfl

theorem firstOccGo_congr {γ : Type} [DecidableEq γ] (f : α → β) (g : α → γ) (s : List β) (s' : List γ) (ls : List α)
    (h : ∀ a ∈ ls, ∀ b ∈ ls, f a = f b ↔ g a = g b) (hs : ∀ a ∈ ls, f a ∈ s ↔ g a ∈ s') :
    firstOccGo f s ls = firstOccGo g s' ls := by
  induction ls generalizing s s' with
  | nil => rfl
  | cons l ls ih =>
    have hl : f l ∈ s ↔ g l ∈ s' := hs l (.head _)
    have hs' : ∀ a ∈ ls, f a ∈ s ↔ g a ∈ s' := fun a ha => hs a (.tail _ ha)
    have h' : ∀ a ∈ ls, ∀ b ∈ ls, f a = f b ↔ g a = g b := fun a ha b hb => h a (.tail _ ha) b (.tail _ hb)
    -- with the head's key remembered: a later line repeats it under `f` iff it does under `g`
    have hsl : ∀ a ∈ ls, f a ∈ f l :: s ↔ g a ∈ g l :: s' := fun a ha => by
      rw [List.mem_cons, List.mem_cons, h a (.tail _ ha) l (.head _), hs' a ha]
    rw [firstOccGo_cons, firstOccGo_cons, ih s s' h' hs', ih (f l :: s) (g l :: s') h' hsl]
    simp only [hl]

/-- `seen` matters only through which of the keys to come it holds. -/
theorem firstOccGo_congr_seen (f : α → β) {s s' : List β} (ls : List α) (hs : ∀ a ∈ ls, f a ∈ s ↔ f a ∈ s') :
    firstOccGo f s ls = firstOccGo f s' ls :=
  firstOccGo_congr f f s s' ls (fun _ _ _ _ => Iff.rfl) hs

theorem firstOccGo_sublist (f : α → β) (seen : List β) (ls : List α) : (firstOccGo f seen ls).Sublist ls := by
  induction ls generalizing seen with
  | nil => exact .slnil
  | cons l ls ih =>
    rw [firstOccGo_cons]
    split
    · exact (ih seen).cons l
    · exact (ih _).cons_cons l

theorem mem_map_firstOccGo (f : α → β) (seen : List β) (ls : List α) (k : β) :
    k ∈ (firstOccGo f seen ls).map f ↔ k ∈ ls.map f ∧ k ∉ seen := by
  induction ls generalizing seen with
  | nil => simp [firstOccGo_nil]
  | cons l ls ih =>
    rw [firstOccGo_cons, List.map_cons, List.mem_cons]
    split
    · next h =>
      rw [ih]
      exact ⟨fun ⟨a, b⟩ => ⟨Or.inr a, b⟩, fun ⟨a, b⟩ => ⟨a.resolve_left fun e => b (e ▸ h), b⟩⟩
    · next h =>
      rw [List.map_cons, List.mem_cons, ih, List.mem_cons, not_or]
      by_cases hk : k = f l
      · simp [hk, h]
      · simp [hk]

theorem find?_of_mem_firstOccGo (f : α → β) (seen : List β) (ls : List α) (x : α)
    (h : x ∈ firstOccGo f seen ls) : ls.find? (fun y => f y == f x) = some x := by
  induction ls generalizing seen with
  | nil => exact nomatch h
  | cons l ls ih =>
    have hx := ((mem_map_firstOccGo f _ _ _).1 (List.mem_map_of_mem h)).2
    rw [firstOccGo_cons] at h
    rw [List.find?_cons]
    split at h
    · have hne : f l ≠ f x := fun e => hx (e ▸ ‹f l ∈ seen›)
      rw [beq_eq_false_iff_ne.2 hne]
      exact ih seen h
    · rcases List.mem_cons.1 h with rfl | h
      · rw [beq_self_eq_true]
      · have hne : f l ≠ f x := fun e =>
          ((mem_map_firstOccGo f _ _ _).1 (List.mem_map_of_mem h)).2 (e ▸ List.mem_cons_self)
        rw [beq_eq_false_iff_ne.2 hne]
        exact ih _ h

theorem firstOccGo_nodup (f : α → β) (seen : List β) (ls : List α) : ((firstOccGo f seen ls).map f).Nodup := by
  induction ls generalizing seen with
  | nil => exact List.nodup_nil
  | cons l ls ih =>
    rw [firstOccGo_cons]
    split
    · exact ih seen
    · rw [List.map_cons, List.nodup_cons]
      exact ⟨fun h => ((mem_map_firstOccGo f _ ls _).1 h).2 List.mem_cons_self, ih _⟩

theorem firstOccGo_of_nodup (f : α → β) (seen : List β) (xs : List α)
    (h : ∀ x ∈ xs, f x ∉ seen) (hn : (xs.map f).Nodup) : firstOccGo f seen xs = xs := by
  induction xs generalizing seen with
  | nil => rfl
  | cons a xs ih =>
    rw [List.map_cons, List.nodup_cons] at hn
    rw [firstOccGo_cons, if_neg (h a List.mem_cons_self), ih _ _ hn.2]
    intro x hx
    rw [List.mem_cons, not_or]
    exact ⟨fun he => hn.1 (he ▸ List.mem_map_of_mem hx), h x (List.mem_cons_of_mem a hx)⟩

theorem firstOccGo_filter (f : α → β) (q : β → Bool) (seen : List β) (ls : List α) :
    firstOccGo f seen (ls.filter (fun l => q (f l))) =
      (firstOccGo f seen ls).filter (fun l => q (f l)) := by
  induction ls generalizing seen with
  | nil => rfl
  | cons l ls ih =>
    rw [List.filter_cons, firstOccGo_cons]
    by_cases hq : q (f l) = true
    · rw [if_pos hq, firstOccGo_cons, ih, ih]
      split
      · rfl
      · rw [List.filter_cons, if_pos hq]
    · rw [if_neg hq, ih]
      split
      · rfl
      -- a dropped line's key, remembered or not, is the key of no line that passes the filter
      · rw [List.filter_cons, if_neg hq, ← ih, ← ih]
        refine firstOccGo_congr_seen f _ fun x hx => ?_
        rw [List.mem_cons, or_iff_right]
        exact fun h => hq (h ▸ (List.mem_filter.1 hx).2)

/-- `pre`: the lines already read, whose keys `seen` holds; the positions count from there -/
theorem firstOccGo_characterisation (f : α → β) (pre : List α) (seen : List β) (ls : List α)
    (h : ∀ x, x ∈ seen ↔ x ∈ pre.map f) :
    firstOccGo f seen ls = ((ls.zipIdx pre.length).filter
      (fun (l, i) => decide (f l ∉ ((pre ++ ls).take i).map f))).map (·.1) := by
  induction ls generalizing pre seen with
  | nil => rfl
  | cons l ls ih =>
    have ih' := fun seen' => ih (pre ++ [l]) seen'
    rw [List.length_append, List.append_assoc] at ih'
    rw [firstOccGo_cons, List.zipIdx_cons, List.filter_cons]
    simp only [List.take_left]
    by_cases hm : f l ∈ pre.map f
    · rw [if_pos ((h _).2 hm), decide_eq_false (not_not_intro hm), if_neg Bool.false_ne_true]
      refine ih' seen fun x => ?_
      rw [List.map_append, List.mem_append, h, List.map_singleton, List.mem_singleton,
        or_iff_left_of_imp fun e => e ▸ hm]
    · rw [if_neg (mt (h _).1 hm), decide_eq_true hm, if_pos rfl, List.map_cons]
      refine congrArg _ (ih' _ fun x => ?_)
      rw [List.map_append, List.mem_append, ← h, List.map_singleton, List.mem_singleton, List.mem_cons,
        or_comm]

theorem parGo_nil (f : α → β) (s0 s1 : List β) : parGo f s0 s1 [] = [] := rfl

theorem parGo_cons (f : α → β) (s0 s1 : List β) (a b : α) (ps : List (α × α)) :
    parGo f s0 s1 ((a, b) :: ps) =
      if f a ∈ s0 then parGo f s0 s1 ps
      else if f b ∈ s1 then parGo f (f a :: s0) s1 ps
      else (a, b) :: parGo f (f a :: s0) (f b :: s1) ps := rfl

theorem parGo_eq (f : α → β) (s0 s1 : List β) (ps : List (α × α)) :
    parGo f s0 s1 ps = firstOccGo (fun p => f p.2) s1 (firstOccGo (fun p => f p.1) s0 ps) := by
  induction ps generalizing s0 s1 with
  | nil => rfl
  | cons p ps ih =>
    obtain ⟨a, b⟩ := p
    rw [parGo_cons, firstOccGo_cons]
    split
    · exact ih s0 s1
    · rw [firstOccGo_cons]
      split
      · exact ih _ s1
      · rw [ih]

theorem parGo_both_new (f : α → β) (s0 s1 : List β) (pre post : List (α × α)) (a b : α)
    (h0 : f a ∉ s0) (h1 : f b ∉ s1) (ha : f a ∉ pre.map (fun p => f p.1)) (hb : f b ∉ pre.map (fun p => f p.2)) :
    (a, b) ∈ parGo f s0 s1 (pre ++ (a, b) :: post) := by
  induction pre generalizing s0 s1 with
  | nil =>
    rw [List.nil_append, parGo_cons, if_neg h0, if_neg h1]
    exact List.mem_cons_self
  | cons p pre ih =>
    obtain ⟨a', b'⟩ := p
    rw [List.map_cons, List.mem_cons, not_or] at ha hb
    have h0' : f a ∉ f a' :: s0 := List.not_mem_cons_of_ne_of_not_mem ha.1 h0
    have h1' : f b ∉ f b' :: s1 := List.not_mem_cons_of_ne_of_not_mem hb.1 h1
    rw [List.cons_append, parGo_cons]
    split
    · exact ih _ _ h0 h1 ha.2 hb.2
    · split
      · exact ih _ _ h0' h1 ha.2 hb.2
      · exact List.mem_cons_of_mem _ (ih _ _ h0' h1' ha.2 hb.2)

end PV.Lemmas.FirstOcc
