import PV.Model.BufStream
/-! One invariant of `BufferedStream` for every operation (`step_inv`), carried along a run (`run_inv`). -/
namespace PV.Lemmas.BufStream
open PV.BufStream

/-- `acc` is every byte the stream has been given so far, in order. -/
structure Inv (cap : Nat) (acc : List UInt8) (s : St) : Prop where
  bytes : s.chunks.flatten ++ s.buf = acc
  fits : s.buf.length ≤ cap
  chunks_ne : ∀ c ∈ s.chunks, c ≠ []

theorem spill_inv {cap : Nat} {acc : List UInt8} {s : St} (h : Inv cap acc s) :
    Inv cap acc (spill s) ∧ (spill s).buf = [] := by
  unfold spill
  split
  · exact ⟨h, ‹_›⟩
  · refine ⟨⟨?_, Nat.zero_le _, List.forall_mem_append.mpr ⟨h.chunks_ne, List.forall_mem_singleton.mpr ‹_›⟩⟩, rfl⟩
    rw [← h.bytes, List.flatten_append, List.flatten_singleton, List.append_nil]

theorem step_inv {cap : Nat} {acc : List UInt8} {s : St} (o : Op) (h : Inv cap acc s)
    (ho : match o with
      | .put need bs => bs.length ≤ need ∧ need ≤ cap
      | _ => True) :
    Inv cap (acc ++ o.bytes) (step cap s o) := by
  obtain ⟨hs, sb⟩ := spill_inv h
  have s1 := hs.bytes
  rw [sb, List.append_nil] at s1
  cases o with
  | write bs =>
    simp only [step, Op.bytes]
    by_cases hfit : s.buf.length + bs.length ≤ cap
    · rw [if_pos hfit]
      exact ⟨by rw [← List.append_assoc, h.bytes], by rwa [List.length_append], h.chunks_ne⟩
    · rw [if_neg hfit]
      by_cases hle : bs.length ≤ cap
      · rw [if_pos hle]
        exact ⟨by rw [s1], hle, hs.chunks_ne⟩
      · rw [if_neg hle]
        exact ⟨by rw [sb, List.append_nil, List.flatten_append, List.flatten_singleton, s1],
          by rw [sb]; exact Nat.zero_le _,
          List.forall_mem_append.mpr
            ⟨hs.chunks_ne, List.forall_mem_singleton.mpr fun hnil => hle (hnil ▸ Nat.zero_le _)⟩⟩
  | put need bs =>
    obtain ⟨hb, hn⟩ := ho
    simp only [step, Op.bytes]
    by_cases hfit : s.buf.length + need > cap
    · rw [if_pos hfit]
      exact ⟨by rw [sb, List.nil_append, s1], by rw [sb, List.nil_append]; exact Nat.le_trans hb hn, hs.chunks_ne⟩
    · rw [if_neg hfit]
      exact ⟨by rw [← List.append_assoc, h.bytes], by rw [List.length_append]; have := h.fits; omega, h.chunks_ne⟩
  | flush =>
    rw [Op.bytes, List.append_nil]
    exact { hs with }  -- the state differs in `flushes`, which `Inv` does not read

theorem run_inv {cap : Nat} {ops : List Op} (hw : WF cap ops) :
    Inv cap (ops.map Op.bytes).flatten (run cap ops) := by
  suffices ∀ (ops : List Op) (acc : List UInt8) (s : St), Inv cap acc s → WF cap ops →
      Inv cap (acc ++ (ops.map Op.bytes).flatten) (ops.foldl (step cap) s) from
    this ops [] init ⟨rfl, Nat.zero_le _, fun _ hc => nomatch hc⟩ hw
  intro ops
  induction ops with
  | nil => intro acc s h _; rwa [List.map_nil, List.flatten_nil, List.append_nil]
  | cons o os ih =>
    intro acc s h hw
    have := ih _ _ (step_inv o h (hw o (.head _))) fun o' ho' => hw o' (.tail _ ho')
    rwa [List.append_assoc] at this

end PV.Lemmas.BufStream
