/-! Facts about `Nat` and `List` that more than one lemma file needs. -/
namespace PV.Lemmas

/-- two positions less than a lap apart fall on different slots of a ring of `n` -/
theorem mod_ne_of_lt {a b n : Nat} (h1 : a < b) (h2 : b < a + n) : a % n ≠ b % n := fun h =>
  Nat.not_le_of_lt (Nat.sub_lt_left_of_lt_add (Nat.le_of_lt h1) h2)
    (Nat.le_of_dvd (Nat.sub_pos_of_lt h1) (Nat.dvd_of_mod_eq_zero (Nat.sub_mod_eq_zero_of_mod_eq h.symm)))

/-- advancing a ring cursor (`++i`, wrap at `n`) keeps it equal to the running count modulo `n` -/
theorem succ_mod_wrap {a w n : Nat} (hn : 1 ≤ n) (h : a = w % n) : (if a + 1 = n then 0 else a + 1) = (w + 1) % n := by
  subst h
  rw [← Nat.mod_add_mod]
  split
  · next h => rw [h, Nat.mod_self]
  · next h => exact (Nat.mod_eq_of_lt (Nat.lt_of_le_of_ne (Nat.mod_lt _ hn) h)).symm

theorem bne_of_not_mem {d : UInt8} {a : List UInt8} (h : d ∉ a) : ∀ x ∈ a, (x != d) = true :=
  fun _ hx => bne_iff_ne.mpr (ne_of_mem_of_not_mem hx h)

theorem fields_induction (d : UInt8) {P : List UInt8 → Prop} (last : ∀ a, d ∉ a → P a)
    (more : ∀ a r, d ∉ a → P r → P (a ++ d :: r)) (l : List UInt8) : P l := by
  suffices ∀ a, d ∉ a → P (a ++ l) from this [] List.not_mem_nil
  induction l with
  | nil => intro a h; rw [List.append_nil]; exact last a h
  | cons c r ih =>
    intro a h
    by_cases hc : c = d
    · subst hc; exact more a r h (ih [] List.not_mem_nil)
    · rw [List.append_cons]
      exact ih (a ++ [c]) (by simp [h, Ne.symm hc])

section TakeWhile
variable {α : Type} {p : α → Bool}

theorem takeWhile_of_forall {l : List α} (h : ∀ a ∈ l, p a = true) : l.takeWhile p = l := by
  simpa using List.takeWhile_append_of_pos (l₂ := []) h

/-- `hr`: `r` does not start with an element that satisfies `p` -/
theorem takeWhile_append_stop {D r : List α} (hD : ∀ x ∈ D, p x = true) (hr : r.takeWhile p = []) :
    (D ++ r).takeWhile p = D ∧ (D ++ r).dropWhile p = r := by
  have := List.takeWhile_append_dropWhile (p := p) (l := r)
  rw [hr] at this
  rw [List.takeWhile_append_of_pos hD, List.dropWhile_append_of_pos hD, hr, List.append_nil]
  exact ⟨rfl, this⟩

theorem takeWhile_append_cons {D : List α} {x : α} (r : List α) (hD : ∀ a ∈ D, p a = true) (hx : p x = false) :
    (D ++ x :: r).takeWhile p = D ∧ (D ++ x :: r).dropWhile p = x :: r :=
  takeWhile_append_stop hD (List.takeWhile_cons_of_neg (Bool.eq_false_iff.mp hx))

end TakeWhile

end PV.Lemmas
