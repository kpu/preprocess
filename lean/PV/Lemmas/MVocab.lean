import PV.Model.MVocab
import PV.Lemmas.Table
import PV.Lemmas.FirstOcc
/-
`util::MutableVocab` over the real hash-table model against the first-occurrence specification.
-/
namespace PV.Lemmas.MVocab
open PV.MVocab PV.Table PV.Spec.Map PV.Spec.FirstOcc PV.Lemmas.Table PV.Lemmas.FirstOcc

theorem specId_eq_none_iff (seen : List Nat) (k : Nat) : specId seen k = none ↔ k ∉ seen := by
  rw [specId, Option.map_eq_none_iff, List.idxOf?_eq_none_iff]

theorem specId_some (seen : List Nat) (k i : Nat) (h : specId seen k = some i) :
    ∃ j, i = j + 1 ∧ seen[j]? = some k := by
  obtain ⟨j, hj, rfl⟩ := Option.map_eq_some_iff.1 h
  obtain ⟨hlt, hk, _⟩ := List.idxOf?_eq_some_iff.1 hj
  exact ⟨j, rfl, List.getElem?_eq_some_iff.2 ⟨hlt, hk⟩⟩

theorem specId_append (seen ext : List Nat) (k : Nat) :
    specId (seen ++ ext) k = (specId seen k).or ((specId ext k).map (· + seen.length)) := by
  rw [specId, specId, specId, List.idxOf?, List.findIdx?_append]
  cases seen.findIdx? (· == k) with
  | some _ => rfl
  | none =>
    cases ext.findIdx? (· == k) with
    | none => rfl
    | some j => exact congrArg some (Nat.add_right_comm j _ 1)

theorem specId_snoc (seen : List Nat) (k k' : Nat) (h : specId seen k = none) :
    specId (seen ++ [k]) k' = if k = k' then some (seen.length + 1) else specId seen k' := by
  rw [specId_append]
  split
  · next e =>
    rw [← e, h, specId, List.idxOf?_singleton, beq_self_eq_true, if_pos rfl]
    exact congrArg some (Nat.add_comm ..)
  · next hne =>
    rw [(specId_eq_none_iff [k] k').2 fun h => hne (List.mem_singleton.1 h).symm]
    exact Option.or_none

theorem specInsertAll_cons_some (seen : List Nat) (w : Word) (ws : List Word) (i : Nat)
    (h : specId seen (key w) = some i) :
    specInsertAll seen (w :: ws) = (i :: (specInsertAll seen ws).1, (specInsertAll seen ws).2) := by
  rw [specInsertAll, h]

theorem specInsertAll_cons_none (seen : List Nat) (w : Word) (ws : List Word)
    (h : specId seen (key w) = none) :
    specInsertAll seen (w :: ws) =
      ((seen.length + 1) :: (specInsertAll (seen ++ [key w]) ws).1, (specInsertAll (seen ++ [key w]) ws).2) := by
  rw [specInsertAll, h]

theorem specInsertAll_spec (seen : List Nat) (ws : List Word) : seen <+: (specInsertAll seen ws).2 ∧
    ∀ i, i < ws.length →
      specId (specInsertAll seen ws).2 (key (ws.getD i [])) = some ((specInsertAll seen ws).1.getD i 0) := by
  induction ws generalizing seen with
  | nil => exact ⟨List.prefix_rfl, nofun⟩
  | cons w ws ih =>
    cases hs : specId seen (key w) with
    | some n =>
      rw [specInsertAll_cons_some seen w ws n hs]
      obtain ⟨⟨ext, hext⟩, h⟩ := ih seen
      refine ⟨⟨ext, hext⟩, fun i hi => ?_⟩
      cases i with
      | zero => rw [List.getD_cons_zero, ← hext, specId_append, hs]; rfl
      | succ i => exact h i (Nat.lt_of_succ_lt_succ hi)
    | none =>
      rw [specInsertAll_cons_none seen w ws hs]
      obtain ⟨⟨ext, hext⟩, h⟩ := ih (seen ++ [key w])
      refine ⟨(List.prefix_append seen _).trans ⟨ext, hext⟩, fun i hi => ?_⟩
      cases i with
      | zero => rw [List.getD_cons_zero, ← hext, specId_append, specId_snoc seen _ _ hs, if_pos rfl]; rfl
      | succ i => exact h i (Nat.lt_of_succ_lt_succ hi)

theorem specInsertAll_id (seen : List Nat) (ws : List Word) {i : Nat} (hi : i < ws.length) :
    ∃ j, (specInsertAll seen ws).1.getD i 0 = j + 1 ∧ (specInsertAll seen ws).2[j]? = some (key (ws.getD i [])) :=
  specId_some _ _ _ ((specInsertAll_spec seen ws).2 i hi)

theorem specInsertAll_length (seen : List Nat) (ws : List Word) : (specInsertAll seen ws).1.length = ws.length := by
  induction ws generalizing seen with
  | nil => rfl
  | cons w ws ih =>
    cases hs : specId seen (key w) with
    | some n => rw [specInsertAll_cons_some seen w ws n hs]; exact congrArg (· + 1) (ih _)
    | none => rw [specInsertAll_cons_none seen w ws hs]; exact congrArg (· + 1) (ih _)

/-- The vocabulary holds the keys `seen`, oldest first: the table maps each key to its id and `strings` lists, after
    "<unk>", one word with that key for each. -/
def Rep (v : V) (seen : List Nat) : Prop :=
  Inv v.table ∧ (∃ m, Abs v.table m ∧ ∀ k, lookup m k = (specId seen k).map fun i => (k, i)) ∧
    ∃ ws, v.strings = unk :: ws ∧ ws.map key = seen

theorem rep_init : Rep init [] := ⟨init_inv, ⟨[], init_abs, fun _ => rfl⟩, [], rfl, rfl⟩

theorem Rep.length {v : V} {seen : List Nat} (h : Rep v seen) : v.strings.length = seen.length + 1 := by
  obtain ⟨_, _, ws, hs, rfl⟩ := h
  rw [hs, List.length_cons, List.length_map]

theorem Rep.findOrInsert {v : V} {seen : List Nat} (h : Rep v seen) {w : Word} (hk : key w ≠ 0) :
    (∃ i v', specId seen (key w) = some i ∧ findOrInsert v w = some (i, v') ∧ Rep v' seen ∧
        v'.strings = v.strings) ∨
    (∃ v', specId seen (key w) = none ∧ findOrInsert v w = some (seen.length + 1, v') ∧
        Rep v' (seen ++ [key w]) ∧ v'.strings = v.strings ++ [w]) := by
  have hlen := h.length
  obtain ⟨hi, ⟨m, ha, hm⟩, ws, hs, hws⟩ := h
  rcases findOrInsert_cases v.table m hi ha (key w) v.strings.length hk with
    ⟨e, t', hl, hf, hi', ha'⟩ | ⟨t', hl, hf, hi', ha'⟩
  · rw [hm] at hl
    obtain ⟨i, hs', rfl⟩ := Option.map_eq_some_iff.1 hl
    exact .inl ⟨i, ⟨t', v.strings⟩, hs', by rw [PV.MVocab.findOrInsert, hf],
      ⟨hi', ⟨m, ha', hm⟩, ws, hs, hws⟩, rfl⟩
  · rw [hm, Option.map_eq_none_iff] at hl
    refine .inr ⟨⟨t', v.strings ++ [w]⟩, hl, by rw [PV.MVocab.findOrInsert, hf, hlen],
      ⟨hi', ⟨_, ha', fun k => ?_⟩, ws ++ [w], by rw [hs]; rfl, by rw [List.map_append, hws]; rfl⟩, rfl⟩
    rw [hlen, lookup_cons, specId_snoc seen _ k hl]
    split
    · next hk' => exact hk' ▸ rfl
    · exact hm k

theorem insertAll_spec (ws : List Word) : ∀ {v : V} {seen : List Nat}, Rep v seen → (∀ w ∈ ws, key w ≠ 0) →
    ∃ v', insertAll v ws = some ((specInsertAll seen ws).1, v') ∧ Rep v' (specInsertAll seen ws).2 ∧
      v'.strings = v.strings ++ firstOccGo key seen ws := by
  induction ws with
  | nil => exact fun h _ => ⟨_, rfl, h, (List.append_nil _).symm⟩
  | cons w ws ih =>
    intro v seen h h0
    obtain ⟨hw, h0'⟩ := List.forall_mem_cons.1 h0
    rw [insertAll, firstOccGo_cons]
    rcases h.findOrInsert hw with
      ⟨i, v1, hs, hf, h1, hstr⟩ | ⟨v1, hs, hf, h1, hstr⟩
    · obtain ⟨v', hrun, h', hstr'⟩ := ih h1 h0'
      obtain ⟨j, -, hj⟩ := specId_some _ _ _ hs
      rw [hf, specInsertAll_cons_some seen w ws i hs, if_pos (List.mem_of_getElem? hj), ← hstr]
      exact ⟨v', by simp only [hrun, Option.map_some], h', hstr'⟩
    · obtain ⟨v', hrun, h', hstr'⟩ := ih h1 h0'
      rw [hf, specInsertAll_cons_none seen w ws hs, if_neg ((specId_eq_none_iff seen _).1 hs)]
      refine ⟨v', by simp only [hrun, Option.map_some], h', ?_⟩
      rw [hstr', hstr, List.append_assoc, List.singleton_append]
      -- the specification appends the new key where `firstOccGo` conses it
      refine congrArg _ (congrArg _ (firstOccGo_congr_seen key ws fun a _ => ?_))
      rw [List.mem_append, List.mem_singleton, List.mem_cons, or_comm]

theorem find_spec {v : V} {seen : List Nat} (h : Rep v seen) (w : Word) (hk : key w ≠ 0) :
    find v w = some (specFind seen w) := by
  obtain ⟨hi, ⟨m, ha, hm⟩, _⟩ := h
  rw [PV.MVocab.find, specFind, find_abs v.table m hi ha (key w) hk, hm]
  cases specId seen (key w) <;> rfl

/-- the empty word hashes to 0, the table's "empty bucket" key: MutableVocab answers kUNK for it (outside C13's
"non-zero keys"; recorded, and excluded by hypothesis below) -/
theorem empty_word_key_zero : key [] = 0 := by
  decide +kernel

/-- FindOrInsert over any list of words with non-zero keys never fails and hands out the specification's ids; afterwards
`Size()` is one more than the number of distinct keys and `Find` answers the specification's id (0 for unknown words) -/
theorem insertAll_refines (ws : List Word) (h0 : ∀ w ∈ ws, key w ≠ 0) :
    ∃ v, insertAll init ws = some ((specInsertAll [] ws).1, v) ∧
      v.strings.length = (specInsertAll [] ws).2.length + 1 ∧
      (∀ w, key w ≠ 0 → find v w = some (specFind (specInsertAll [] ws).2 w)) := by
  obtain ⟨v, hrun, h, _⟩ := insertAll_spec ws rep_init h0
  exact ⟨v, hrun, h.length, find_spec h⟩

theorem spec_ids_eq_iff (ws : List Word) (i j : Nat) (hi : i < ws.length) (hj : j < ws.length) :
    ((specInsertAll [] ws).1.getD i 0 = (specInsertAll [] ws).1.getD j 0) ↔ key (ws.getD i []) = key (ws.getD j []) := by
  constructor
  · intro h
    obtain ⟨a, ha, hga⟩ := specInsertAll_id [] ws hi
    obtain ⟨b, hb, hgb⟩ := specInsertAll_id [] ws hj
    rw [Nat.succ_inj.1 ((ha.symm.trans h).trans hb), hgb] at hga
    exact (Option.some.inj hga).symm
  · intro h
    have hi' := (specInsertAll_spec [] ws).2 i hi
    rw [h, (specInsertAll_spec [] ws).2 j hj] at hi'
    exact (Option.some.inj hi').symm

theorem spec_ids_range (ws : List Word) :
    ∀ x ∈ (specInsertAll [] ws).1, 1 ≤ x ∧ x ≤ (specInsertAll [] ws).2.length := by
  intro x hx
  obtain ⟨i, hi, rfl⟩ := List.getElem_of_mem hx
  obtain ⟨a, ha, hga⟩ := specInsertAll_id [] ws (specInsertAll_length [] ws ▸ hi)
  rw [List.getElem_eq_getD (h := hi) 0, ha]
  exact ⟨Nat.succ_pos a, (List.getElem?_eq_some_iff.1 hga).1⟩

/-- `String(FindOrInsert(w)) = w`: with no two different words sharing a key, the string stored under the id a word
received is that word, for every position of the input and at the end of the run (strings never move) -/
theorem strings_attached (ws : List Word) (h0 : ∀ w ∈ ws, key w ≠ 0)
    (hinj : ∀ a ∈ ws, ∀ b ∈ ws, key a = key b → a = b) (ids : List Nat) (v : V)
    (hr : insertAll init ws = some (ids, v)) :
    ∀ i, i < ws.length → v.strings.getD (ids.getD i 0) [] = ws.getD i [] := by
  intro i hi
  obtain ⟨v', hrun, ⟨_, _, fs, hfs, hkeys⟩, hstr⟩ := insertAll_spec ws rep_init h0
  rw [hr] at hrun
  cases hrun
  -- `fs`, the strings after "<unk>", are the first occurrences; the word at id `j + 1` is `fs[j]`, has the key of
  -- `ws[i]` and occurs in `ws`
  cases (List.cons.inj (hfs.symm.trans hstr)).2
  obtain ⟨j, hj, hgj⟩ := specInsertAll_id [] ws hi
  rw [hj, hfs, List.getD_cons_succ]
  rw [← hkeys, List.getElem?_map, Option.map_eq_some_iff] at hgj
  obtain ⟨w, hw, hkw⟩ := hgj
  rw [List.getD_eq_getElem?_getD, hw, Option.getD_some]
  refine hinj _ ((firstOccGo_sublist key [] ws).subset (List.mem_of_getElem? hw)) _ ?_ hkw
  rw [← List.getElem_eq_getD (h := hi) []]
  exact List.getElem_mem hi

end PV.Lemmas.MVocab
