import PV.Model.Format
/-! Bytes touched by the number formatters, bounded by the digit count `k` of any `10 ^ k` above the value (`k` stays
a variable; C20 puts in the width of each type), and the length of a float's text, bounded for every exponent. -/
namespace PV.Lemmas.Format
open PV.Format

/-- whatever the fuel: when it runs out `ndigits` stops counting, which only makes the count smaller -/
theorem ndigits_le : ∀ {fuel k v : Nat}, 1 ≤ k → v < 10 ^ k → ndigits fuel v ≤ k
  | 0, _, _, hk, _ => hk
  | n + 1, k, v, hk, hv => by
    rw [ndigits]
    split
    · exact hk
    next h10 =>
      obtain ⟨k', rfl⟩ := Nat.exists_eq_add_of_le' hk
      -- `v ≥ 10`, so one digit is not enough
      have hk' : 1 ≤ k' := Nat.pos_of_ne_zero fun h0 => h10 (by rw [h0] at hv; exact hv)
      exact Nat.add_comm .. ▸ Nat.succ_le_succ (ndigits_le hk' (Nat.div_lt_of_lt_mul (Nat.mul_comm .. ▸ hv)))

theorem lt_of_pow_le {n k v : Nat} (hn : 10 ^ n ≤ v) (hv : v < 10 ^ k) : n < k :=
  (Nat.pow_lt_pow_iff_right (by decide)).mp (Nat.lt_of_le_of_lt hn hv)

theorem ite_le {c : Prop} [Decidable c] {a b m : Nat} (ha : c → a ≤ m) (hb : ¬ c → b ≤ m) :
    (if c then a else b) ≤ m := by
  split
  · exact ha ‹_›
  · exact hb ‹_›

theorem u32_touched_le {k v : Nat} (hk : 1 ≤ k) (hv : v < 10 ^ k) : (u32 v).2 ≤ k := by
  rw [u32]
  by_cases h8 : v < 100000000
  · rw [if_pos h8]
    exact ndigits_le hk hv
  · rw [if_neg h8]
    have h8k := lt_of_pow_le (n := 8) (Nat.le_of_not_lt h8) hv
    exact Nat.add_le_of_le_sub (Nat.le_of_lt h8k) (ite_le
      (fun h9 => Nat.le_sub_of_add_le (lt_of_pow_le (n := 9) (Nat.mul_le_of_le_div _ 10 v h9) hv))
      fun _ => Nat.le_sub_of_add_le h8k)

/-- `k ≥ 16`: from `10^8` on `u64` stores 16 bytes at once, whatever the number of digits. -/
theorem u64_touched_le {k v : Nat} (hk : 16 ≤ k) (hv : v < 10 ^ k) : (u64 v).2 ≤ k := by
  rw [u64]
  by_cases h8 : v < 100000000
  · rw [if_pos h8]
    exact ndigits_le (Nat.le_trans (by decide) hk) hv
  rw [if_neg h8]
  by_cases h16 : v < 10000000000000000
  · rw [if_pos h16]
    exact hk
  rw [if_neg h16]
  refine Nat.add_le_of_le_sub hk
    (ite_le (fun _ => ?_) fun h1 => ite_le (fun _ => ?_) fun h2 => ite_le (fun _ => ?_) fun h3 => ?_)
  all_goals refine Nat.le_sub_of_add_le ?_
  · exact lt_of_pow_le (n := 16) (Nat.le_of_not_lt h16) hv
  · exact lt_of_pow_le (n := 17) (Nat.mul_le_of_le_div _ 10 v (Nat.le_of_not_lt h1)) hv
  · exact lt_of_pow_le (n := 18) (Nat.mul_le_of_le_div _ 100 v (Nat.le_of_not_lt h2)) hv
  · exact lt_of_pow_le (n := 19) (Nat.mul_le_of_le_div _ 1000 v (Nat.le_of_not_lt h3)) hv

/-- The signed wrappers: one byte more than the magnitude.  The left side is the body that `i32` and `i64` share, with
    `u` for `u32` / `u64`; `(i32 v).2` and `(i64 v).2` unfold to it, so the lemma applies to them as it stands. -/
theorem signed_touched_le (u : Nat → Nat × Nat) {v : Int} {k : Nat} (h : (u v.natAbs).2 ≤ k) :
    (if v < 0 then let (l, t) := u (-v).toNat; (l + 1, t + 1) else u v.toNat).2 ≤ k + 1 := by
  cases v with
  | ofNat n =>
    rw [if_neg (show ¬ Int.ofNat n < 0 from Int.not_lt.2 (Int.natCast_nonneg n))]
    exact Nat.le_succ_of_le h
  | negSucc n =>
    rw [if_pos (Int.negSucc_lt_zero n)]
    exact Nat.succ_le_succ h

/-- the text of a finite float is its digits and at most 8 more characters (sign, "0.", five
    zeros; or sign, point, "e-" and three exponent digits), or at most 22 characters when the
    digits are padded with zeros up to the decimal point.  Holds for every `dp`: the model caps
    the exponent at three digits. -/
theorem shortestLen_le (neg : Bool) (len : Nat) (dp : Int) : shortestLen neg len dp ≤ max (len + 8) 22 := by
  have bit (c : Prop) [Decidable c] : (if c then 1 else 0 : Nat) ≤ 1 :=
    ite_le (fun _ => Nat.le_refl 1) fun _ => Nat.zero_le 1
  have hs := bit (neg = true)
  unfold shortestLen
  generalize (if neg = true then 1 else 0 : Nat) = s at hs
  refine ite_le (fun hdec => ite_le (fun h0 => ?_) fun h0 => ite_le (fun hl => ?_) fun hl => ?_) fun _ => ?_
  · omega
  · omega
  · omega
  · have hm : (if len > 1 then len + 1 else 1 : Nat) ≤ len + 1 :=
      ite_le (fun _ => Nat.le_refl _) fun _ => Nat.le_add_left ..
    have hx := bit (dp - 1 < 0)
    have he (e : Nat) : (if e ≥ 100 then 3 else if e ≥ 10 then 2 else 1 : Nat) ≤ 3 :=
      ite_le (fun _ => Nat.le_refl 3) fun _ => ite_le (fun _ => by decide) fun _ => by decide
    have := he (if dp - 1 < 0 then (-(dp - 1)).toNat else (dp - 1).toNat)
    show s + _ + 1 + _ + _ ≤ _
    omega

theorem floatTouched_le (neg : Bool) (len : Nat) (dp : Int) : floatTouched neg len dp ≤ max (len + 8) 22 + 1 :=
  Nat.succ_le_succ (shortestLen_le neg len dp)

end PV.Lemmas.Format
