import PV.Model.Io
/-! The retry loops of `PV.Model.Io`, specified over their accumulators. -/
namespace PV.Lemmas.Io
open PV.Io

theorem writeAll_spec : ∀ (fuel : Nat) (data : List UInt8) (sched : List Int) (done : List UInt8) (log : List Nat),
    data.length + sched.length < fuel →
    (∃ l, writeAll fuel data sched done log = .ok (done ++ data) l) ∨
    (∃ d l, writeAll fuel data sched done log = .err d l ∧ d <+: done ++ data ∧ ∃ o ∈ sched, o < 0) := by
  intro fuel
  induction fuel with
  | zero => intro _ _ _ _ h; exact absurd h (Nat.not_lt_zero _)
  | succ f ih =>
    intro data sched done log hf
    rw [writeAll]
    cases data with
    | nil => exact .inl ⟨_, by rw [List.append_nil]; rfl⟩
    | cons a t =>
      cases sched with
      | nil => exact .inl ⟨_, rfl⟩
      | cons o rest =>
        have hf : (a :: t).length + rest.length < f := Nat.lt_of_succ_lt_succ hf
        simp only [List.isEmpty_cons, Bool.false_eq_true, if_false]
        by_cases h0 : (o == 0) = true
        · rw [if_pos h0]
          exact (ih _ rest done _ hf).imp_right fun ⟨d, l, e, hp, o, ho, h⟩ => ⟨d, l, e, hp, o, .tail _ ho, h⟩
        · rw [if_neg h0]
          by_cases hn : o < 0
          · rw [if_pos hn]
            exact .inr ⟨done, _, rfl, List.prefix_append _ _, o, .head _, hn⟩
          · rw [if_neg hn]
            have := ih ((a :: t).drop (min o.toNat (a :: t).length)) rest
              (done ++ (a :: t).take (min o.toNat (a :: t).length)) ((a :: t).length :: log)
              (Nat.lt_of_le_of_lt (Nat.add_le_add_right (List.length_drop ▸ Nat.sub_le _ _) _) hf)
            rw [List.append_assoc, List.take_append_drop] at this
            exact this.imp_right fun ⟨d, l, e, hp, o, ho, h⟩ => ⟨d, l, e, hp, o, .tail _ ho, h⟩

/-- `∀ o ∈ sched, 0 ≤ o` (here and in `readLoop_spec`) is `PV.Props.C03.Benign sched`: the script holds no hard error. -/
theorem partialRead_ok (sched : List Int) :
    (∀ o ∈ sched, (0 : Int) ≤ o) → ∀ (amount : Nat) (src : List UInt8) (log : List Nat),
      ∃ bs src' sched' log',
        partialRead (sched.length + 1) amount src sched log = some (some (bs, src', sched'), log') ∧
        bs ++ src' = src ∧ (∀ o ∈ sched', (0 : Int) ≤ o) ∧ bs.length ≤ amount ∧
        (bs = [] → amount = 0 ∨ src = []) := by
  induction sched with
  | nil =>
    intro hb amount src log
    exact ⟨_, _, _, _, rfl, List.take_append_drop _ _, hb, List.length_take_le _ _, List.take_eq_nil_iff.mp⟩
  | cons o rest ih =>
    intro hb amount src log
    have hb' := fun x (hx : x ∈ rest) => hb x (.tail _ hx)
    rw [List.length_cons, partialRead]
    by_cases h0 : (o == 0) = true
    · rw [if_pos h0]
      exact ih hb' amount src _
    · rw [if_neg h0, if_neg (Int.not_lt.mpr (hb o (.head _)))]
      refine ⟨_, _, _, _, rfl, List.take_append_drop _ _, hb', ?_, fun h => (List.take_eq_nil_iff.mp h).imp_left ?_⟩
      · exact Nat.le_trans (List.length_take_le _ _) (Nat.min_le_right _ _)
      · have := hb o (.head _)
        have : o ≠ 0 := fun h => h0 (by rw [h]; rfl)
        omega

theorem readLoop_spec (t : Bool) (fuel : Nat) :
    ∀ (remaining : Nat) (src : List UInt8) (sched : List Int) (got : List UInt8) (log : List Nat),
      (∀ o ∈ sched, (0 : Int) ≤ o) → remaining < fuel →
      ((t = false ∨ remaining ≤ src.length) →
        ∃ log', readLoop t fuel remaining src sched got log = .ok (got ++ src.take remaining) log') ∧
      (t = true → src.length < remaining →
        ∃ log', readLoop t fuel remaining src sched got log = .eof log') := by
  induction fuel with
  | zero => intro _ _ _ _ _ _ hf; exact absurd hf (Nat.not_lt_zero _)
  | succ f ih =>
    intro remaining src sched got log hb hf
    rw [readLoop]
    by_cases hr : remaining = 0
    · subst hr
      exact ⟨fun _ => ⟨_, by rw [List.take_zero, List.append_nil]; rfl⟩, fun _ h => absurd h (Nat.not_lt_zero _)⟩
    · rw [if_neg (mt beq_iff_eq.mp hr)]
      obtain ⟨bs, src', sched', log', hpr, rfl, hb', hk, hnil⟩ :=
        partialRead_ok sched hb remaining src log
      rw [hpr]
      dsimp only
      by_cases he : bs = []
      · rw [if_pos (List.isEmpty_iff.mpr he)]
        obtain rfl : src' = [] := by
          have := (hnil he).resolve_left hr
          rwa [he] at this
        subst he
        constructor
        · intro hc
          obtain rfl : t = false := hc.resolve_right fun h => hr (Nat.le_zero.mp h)
          exact ⟨_, by rw [List.append_nil, List.take_nil, List.append_nil]; rfl⟩
        · intro ht _
          subst ht
          exact ⟨_, rfl⟩
      · rw [if_neg (mt List.isEmpty_iff.mp he)]
        have hpos := List.length_pos_iff.mpr he
        obtain ⟨ih1, ih2⟩ := ih (remaining - bs.length) src' sched' (got ++ bs) log' hb' (by omega)
        rw [List.length_append]
        constructor
        · intro hc
          obtain ⟨l, hl⟩ := ih1 (hc.imp_right fun h => by omega)
          exact ⟨l, by rw [hl, List.append_assoc, List.take_append, List.take_of_length_le hk]⟩
        · intro ht hlt
          exact ih2 ht (by omega)

end PV.Lemmas.Io
