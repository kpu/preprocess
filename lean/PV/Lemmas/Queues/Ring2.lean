import PV.Model.RingReserve
import PV.Lemmas.Basic
/-
The invariant of the ring of blocks (`PV.Queues.Ring2`: `write()` and the in-place `operator<<` path) and what follows from it.

Ghost counters: `A` = blocks spilled by the caller (including the poison), `D` = blocks released by the
writer thread, `Qd` = the spilled data blocks that have not yet been appended to `file`
(the poison block `[]`, if queued, follows them).
-/
namespace PV.Lemmas.Queues.Ring2
open PV.Queues PV.Queues.Ring2

/- Weights of the program counters in the counting fields `out`, `tr`, `qlen`.  `hC`: the writer thread has taken a unit of
`output` for a block it has not released (`D` counts the releases); `eC`: it has exited, and `~Lease` has posted `output` once
more on the way out; `rC`: it has written its block, which is off `Qd` then, but not released it; `gP`: the caller has taken a
unit of `trash` that no spill has used up (`A` counts the spills). -/
def hC : CPc → Nat | .acquiring => 0 | _ => 1
def eC : CPc → Nat | .exited => 1 | _ => 0
def rC : CPc → Nat | .released => 1 | _ => 0
def gP : PPc → Nat | .acquiring => 0 | .posted => 0 | _ => 1
def ptail (b : Bool) : List (List UInt8) := if b then [[]] else []

structure Inv (p : Params) (s : State) (A D : Nat) (Qd : List (List UInt8)) : Prop where
  pcur : s.pCur = A % p.nBlocks
  ccur : s.cCur = D % p.nBlocks
  blen : s.blocks.length = p.nBlocks
  out : s.output + D + hC s.cPc = A + eC s.cPc
  tr : s.trash + A + gP s.pPc = p.nBlocks + D
  qlen : (Qd ++ ptail s.poisoned).length + D + rC s.cPc = A
  qne : ∀ b ∈ Qd, b ≠ []
  -- `k` names the index, so that a step which shifts `D` or `rC` re-proves a linear equation and nothing under `%`
  qblk : ∀ j k, j < (Qd ++ ptail s.poisoned).length → k = D + rC s.cPc + j →
    s.blocks.getD (k % p.nBlocks) [] = (Qd ++ ptail s.poisoned).getD j []
  -- from a spill to the acquire after it `fill` still shows the block that is in `Qd` already
  bytes : s.file ++ Qd.flatten ++ (if s.pPc = .ready then s.fill else []) ++ s.data ++ (s.calls.map (·.bytes)).flatten = allBytes p
  fillle : s.fill.length ≤ p.blockSize
  pois : s.poisoned = true → s.data = [] ∧ s.calls = [] ∧ (s.pPc = .posted ∨ s.pPc = .joining ∨ s.pPc = .joined)
  join : (s.pPc = .joining ∨ s.pPc = .joined) → s.poisoned = true
  joined : s.pPc = .joined → s.cPc = .exited
  exited : s.cPc = .exited → Qd = [] ∧ s.poisoned = true
  bad : s.bad = false
  wf : ∀ c ∈ s.calls, c.reserve ≤ p.blockSize ∧ (0 < c.reserve → c.bytes.length ≤ c.reserve)
  needle : s.need ≤ p.blockSize
  needdata : 0 < s.need → s.data.length ≤ s.need

variable {p : Params} {s s' : State} {A D : Nat} {Qd : List (List UInt8)}

theorem ready_not_poisoned (h : Inv p s A D Qd) (hp : s.pPc = .ready) : s.poisoned = false := by
  cases hq : s.poisoned
  · rfl
  · have := (h.pois hq).2.2; rw [hp] at this; simp at this

theorem inv_init (hw : p.WF) : Inv p (init p) 0 0 [] := by
  constructor
  case wf => exact hw
  all_goals simp [init, hC, eC, rC, gP, ptail, allBytes]

/-- both waits of the caller end the same way, except that the destructor, which has queued the poison, goes on to `join` -/
theorem step_pAcquire (hs : step p s .pAcquire = some s') :
    gP s.pPc = 0 ∧ 0 < s.trash ∧
      s' = { s with trash := s.trash - 1, pPc := if s.pPc = .posted ∧ s.poisoned then .joining else .ready, fill := [],
                    bad := s.bad || decide (s.cPc = .holding ∧ s.cCur = s.pCur) } := by
  dsimp only [step] at hs
  by_cases h : s.pPc = .acquiring ∧ 0 < s.trash
  · rw [if_pos h] at hs; cases hs; exact ⟨by rw [h.1]; rfl, h.2, by rw [if_neg (by rw [h.1]; simp)]⟩
  · rw [if_neg h] at hs
    obtain ⟨h, hs⟩ := Option.ite_none_right_eq_some.mp hs
    cases hs; exact ⟨by rw [h.1]; rfl, h.2, by simp only [h.1, true_and]⟩

theorem step_pCall (hs : step p s .pCall = some s') :
    ∃ c rest, s.calls = c :: rest ∧ s.pPc = .ready ∧ s.data = [] ∧ s.need = 0 ∧
      s' = { s with data := c.bytes, need := c.reserve, calls := rest } := by
  dsimp only [step] at hs
  split at hs
  · next c rest hc =>
    obtain ⟨h, hs⟩ := Option.ite_none_right_eq_some.mp hs
    cases hs; exact ⟨c, rest, hc, h.1, h.2.1, h.2.2.1, rfl⟩
  · cases hs

/-- `write()` copies what fits; `operator<<` writes its whole text once `Ensure` has found room -/
theorem step_pCopy (hs : step p s .pCopy = some s') :
    s.pPc = .ready ∧
    (s.need = 0 ∧ s.data ≠ [] ∧ s.fill.length < p.blockSize ∧
       s' = { s with fill := s.fill ++ s.data.take (p.blockSize - s.fill.length),
                     data := s.data.drop (p.blockSize - s.fill.length) } ∨
     0 < s.need ∧ s.need ≤ p.blockSize - s.fill.length ∧ s' = { s with fill := s.fill ++ s.data, data := [], need := 0 }) := by
  dsimp only [step] at hs
  by_cases h0 : s.need = 0
  · rw [if_pos h0] at hs
    obtain ⟨h, hs⟩ := Option.ite_none_right_eq_some.mp hs
    cases hs; exact ⟨h.1, .inl ⟨h0, h.2.1, h.2.2, rfl⟩⟩
  · rw [if_neg h0] at hs
    obtain ⟨h, hs⟩ := Option.ite_none_right_eq_some.mp hs
    cases hs; exact ⟨h.1, .inr ⟨Nat.pos_of_ne_zero h0, h.2, rfl⟩⟩

/-- all four spills hand over `fill` as the block; it is empty exactly when the block is the poison, which is queued only
    when nothing is left to write (`hb`: with `blockSize = 0` a full block would be empty and pass for the poison) -/
theorem step_pSpill (hb : 1 ≤ p.blockSize) (hs : step p s .pSpill = some s') :
    s.pPc = .ready ∧ s.poisoned = false ∧ (s.fill = [] → s.data = [] ∧ s.calls = []) ∧
      s' = { s with blocks := s.blocks.set s.pCur s.fill, pCur := next p s.pCur, output := s.output + 1, pPc := .posted,
                    poisoned := decide (s.fill = []) } := by
  obtain ⟨⟨hp, hq⟩, hs⟩ := Option.ite_none_right_eq_some.mp hs
  have hq : s.poisoned = false := by simpa using hq
  refine ⟨hp, hq, ?_⟩
  -- the full block, the short block of `Ensure` and the remainder are non-empty; all three write the same fields and leave
  -- `poisoned` as it is, namely `false`
  have data (hf : s.fill ≠ [])
      (e : some { s with blocks := s.blocks.set s.pCur s.fill, pCur := next p s.pCur, output := s.output + 1, pPc := .posted } =
        some s') :
      (s.fill = [] → s.data = [] ∧ s.calls = []) ∧
        s' = { s with blocks := s.blocks.set s.pCur s.fill, pCur := next p s.pCur, output := s.output + 1, pPc := .posted,
                      poisoned := decide (s.fill = []) } := by
    cases e; exact ⟨fun e => absurd e hf, by rw [decide_eq_false hf, ← hq]⟩
  by_cases full : s.need = 0 ∧ s.data ≠ [] ∧ s.fill.length = p.blockSize
  · rw [if_pos full] at hs
    exact data (fun e => Nat.ne_of_lt hb (by rw [← full.2.2, e]; rfl)) hs
  by_cases short : 0 < s.need ∧ p.blockSize - s.fill.length < s.need ∧ s.fill ≠ []
  · rw [if_neg full, if_pos short] at hs
    exact data short.2.2 hs
  by_cases rest : s.need = 0 ∧ s.data = [] ∧ s.calls = [] ∧ s.fill ≠ []
  · rw [if_neg full, if_neg short, if_pos rest] at hs
    exact data rest.2.2.2 hs
  -- the poison
  rw [if_neg full, if_neg short, if_neg rest] at hs
  obtain ⟨⟨-, hd, hc, hf⟩, hs⟩ := Option.ite_none_right_eq_some.mp hs
  cases hs; exact ⟨fun _ => ⟨hd, hc⟩, by rw [hf]; rfl⟩

theorem step_pJoin (hs : step p s .pJoin = some s') :
    s.pPc = .joining ∧ s.cPc = .exited ∧ s' = { s with pPc := .joined } := by
  obtain ⟨h, hs⟩ := Option.ite_none_right_eq_some.mp hs
  cases hs; exact ⟨h.1, h.2, rfl⟩

theorem step_cAcquire (hs : step p s .cAcquire = some s') :
    s.cPc = .acquiring ∧ 0 < s.output ∧
      s' = { s with output := s.output - 1, cPc := .holding, bad := s.bad || decide (s.pPc = .ready ∧ s.pCur = s.cCur) } := by
  obtain ⟨h, hs⟩ := Option.ite_none_right_eq_some.mp hs
  cases hs; exact ⟨h.1, h.2, rfl⟩

theorem step_cWrite (hs : step p s .cWrite = some s') :
    s.cPc = .holding ∧
    (s.blocks.getD s.cCur [] = [] ∧ s' = { s with cPc := .exited, output := s.output + 1 } ∨
     s.blocks.getD s.cCur [] ≠ [] ∧ s' = { s with file := s.file ++ s.blocks.getD s.cCur [], cPc := .released }) := by
  obtain ⟨h, hs⟩ := Option.ite_none_right_eq_some.mp hs
  by_cases hb : s.blocks.getD s.cCur [] = []
  · rw [if_pos hb] at hs; cases hs; exact ⟨h, .inl ⟨hb, rfl⟩⟩
  · rw [if_neg hb] at hs; cases hs; exact ⟨h, .inr ⟨hb, rfl⟩⟩

theorem step_cRelease (hs : step p s .cRelease = some s') :
    s.cPc = .released ∧ s' = { s with cCur := next p s.cCur, trash := s.trash + 1, cPc := .acquiring } := by
  obtain ⟨h, hs⟩ := Option.ite_none_right_eq_some.mp hs
  cases hs; exact ⟨h, rfl⟩

/-- the caller's block and the writer's block are less than a lap apart -/
theorem cursors_ne (h : Inv p s A D Qd) (hlt : D < A) (hle : A < D + p.nBlocks) : s.cCur ≠ s.pCur := by
  rw [h.pcur, h.ccur]; exact mod_ne_of_lt hlt hle

theorem inv_pAcquire (h : Inv p s A D Qd) (hs : step p s .pAcquire = some s') : Inv p s' A D Qd := by
  obtain ⟨hg, ht, rfl⟩ := step_pAcquire hs
  have htr := h.tr; have hby := h.bytes
  rw [hg] at htr
  rw [if_neg (fun e => by rw [e] at hg; cases hg)] at hby
  exact { h with
    tr := by
      show s.trash - 1 + A + gP (if _ then .joining else .ready) = _
      have : gP (if s.pPc = .posted ∧ s.poisoned = true then .joining else .ready) = 1 := by split <;> rfl
      omega
    bytes := by rw [← hby]; split <;> rfl
    fillle := Nat.zero_le _
    pois := fun hq => by
      obtain ⟨hd, hc, hp | hp | hp⟩ := h.pois hq
      · exact ⟨hd, hc, .inr (.inl (if_pos ⟨hp, hq⟩))⟩
      all_goals rw [hp] at hg; cases hg
    join := fun hj => by
      split at hj
      · next c => exact c.2
      · simp at hj
    joined := fun hj => by split at hj <;> cases hj
    bad := by
      rw [h.bad, Bool.false_or, decide_eq_false]
      rintro ⟨hc, e⟩
      have ho := h.out; rw [hc] at ho
      exact cursors_ne h (by simp only [hC, eC] at ho; omega) (by omega) e }

theorem inv_pCall (h : Inv p s A D Qd) (hs : step p s .pCall = some s') : Inv p s' A D Qd := by
  obtain ⟨c, rest, hc, hp, hd, hn, rfl⟩ := step_pCall hs
  have hby := h.bytes; have hwf := h.wf
  rw [hc] at hwf; rw [hc, hd] at hby
  exact { h with
    bytes := by rw [← hby]; simp
    pois := fun hq => by have := (h.pois hq).2.1; rw [hc] at this; cases this
    wf := fun c' hc' => hwf c' (List.mem_cons_of_mem _ hc')
    needle := (hwf c List.mem_cons_self).1
    needdata := (hwf c List.mem_cons_self).2 }

theorem inv_pCopy (h : Inv p s A D Qd) (hs : step p s .pCopy = some s') : Inv p s' A D Qd := by
  obtain ⟨hp, hcase⟩ := step_pCopy hs
  have hby := h.bytes; rw [hp, if_pos rfl] at hby
  have hpo := ready_not_poisoned h hp
  rcases hcase with ⟨hn, -, hf, rfl⟩ | ⟨hn, hf, rfl⟩
  · exact { h with
      bytes := by rw [hp, if_pos rfl, ← hby]; simp only [List.append_assoc, List.take_append_drop]
      fillle := by simp only [List.length_append, List.length_take]; omega
      pois := fun hq => by rw [hpo] at hq; cases hq
      needdata := fun h0 => by rw [hn] at h0; cases h0 }
  · have := h.needdata hn
    exact { h with
      bytes := by rw [hp, if_pos rfl, ← hby]; simp
      fillle := by simp only [List.length_append]; omega
      pois := fun hq => by rw [hpo] at hq; cases hq
      needle := Nat.zero_le _
      needdata := nofun }

theorem inv_pJoin (h : Inv p s A D Qd) (hs : step p s .pJoin = some s') : Inv p s' A D Qd := by
  obtain ⟨hp, hc, rfl⟩ := step_pJoin hs
  have htr := h.tr; have hby := h.bytes
  rw [hp] at htr hby
  exact { h with
    tr := htr
    bytes := hby
    pois := fun hq => ⟨(h.pois hq).1, (h.pois hq).2.1, .inr (.inr rfl)⟩
    join := fun _ => h.join (.inl hp)
    joined := fun _ => hc }

theorem inv_cAcquire (h : Inv p s A D Qd) (hs : step p s .cAcquire = some s') : Inv p s' A D Qd := by
  obtain ⟨hc, ho, rfl⟩ := step_cAcquire hs
  have hout := h.out; have hql := h.qlen; have hqb := h.qblk
  rw [hc] at hout hql hqb
  exact { h with
    out := by simp only [hC, eC] at hout ⊢; omega
    qlen := hql
    qblk := hqb
    joined := fun hj => by have := h.joined hj; rw [hc] at this; cases this
    exited := nofun
    bad := by
      rw [h.bad, Bool.false_or, decide_eq_false]
      rintro ⟨hp, e⟩
      have htr := h.tr; rw [hp] at htr
      exact cursors_ne h (by simp only [hC, eC] at hout; omega) (by simp only [gP] at htr; omega) e.symm }

theorem inv_cRelease (hn : 1 ≤ p.nBlocks) (h : Inv p s A D Qd) (hs : step p s .cRelease = some s') :
    Inv p s' A (D + 1) Qd := by
  obtain ⟨hc, rfl⟩ := step_cRelease hs
  have hout := h.out; have hql := h.qlen; have hqb := h.qblk
  rw [hc] at hout hql hqb
  exact { h with
    ccur := succ_mod_wrap hn h.ccur
    out := by simp only [hC, eC] at hout ⊢; omega
    tr := by have := h.tr; show s.trash + 1 + A + gP s.pPc = _; omega
    qlen := by simp only [rC] at hql ⊢; omega
    qblk := fun j k hj hk => hqb j k hj (by simp only [rC] at hk ⊢; omega)
    joined := fun hj => by have := h.joined hj; rw [hc] at this; cases this
    exited := nofun }

/-- a block stored at position `A` extends the window `lo, …, A - 1` of queued blocks that `Q` describes -/
theorem qblk_push {blocks Q : List (List UInt8)} {lo A n : Nat} {x : List UInt8} (hlen : blocks.length = n)
    (hq : Q.length + lo = A) (hlt : A < lo + n)
    (h : ∀ j k, j < Q.length → k = lo + j → blocks.getD (k % n) [] = Q.getD j []) :
    ∀ j k, j < (Q ++ [x]).length → k = lo + j → (blocks.set (A % n) x).getD (k % n) [] = (Q ++ [x]).getD j [] := by
  intro j k hj hk
  subst hk
  have hA : A % n < n := Nat.mod_lt _ (by omega)
  simp only [List.length_append, List.length_singleton] at hj
  simp only [List.getD_eq_getElem?_getD]
  by_cases hjq : j < Q.length
  · have hne : A % n ≠ (lo + j) % n := fun e => mod_ne_of_lt (a := lo + j) (b := A) (by omega) (by omega) e.symm
    rw [List.getElem?_set_ne hne, List.getElem?_append_left hjq, ← List.getD_eq_getElem?_getD, ← List.getD_eq_getElem?_getD]
    exact h j _ hjq rfl
  · have : lo + j = A := by omega
    rw [this, List.getElem?_set_self (by omega), List.getElem?_append_right (by omega)]
    have : j - Q.length = 0 := by omega
    rw [this]; rfl

theorem inv_pSpill (hn : 1 ≤ p.nBlocks) (hb : 1 ≤ p.blockSize) (h : Inv p s A D Qd) (hs : step p s .pSpill = some s') :
    ∃ Qd', Inv p s' (A + 1) D Qd' := by
  obtain ⟨hp, hq, hend, rfl⟩ := step_pSpill hb hs
  have htr := h.tr; have hby := h.bytes; have hql := h.qlen; have hqb := h.qblk
  rw [hp] at htr hby
  rw [hq, ptail, if_neg Bool.false_ne_true, List.append_nil] at hql hqb
  simp only [gP] at htr
  -- `fill` goes to the end of the queue, as a data block or as the poison
  obtain ⟨Qd', hQ, hne, hfl⟩ : ∃ Qd' : List (List UInt8), Qd' ++ ptail (decide (s.fill = [])) = Qd ++ [s.fill] ∧
      (∀ b ∈ Qd', b ≠ []) ∧ Qd'.flatten = Qd.flatten ++ s.fill := by
    by_cases hf : s.fill = []
    · exact ⟨Qd, by rw [hf]; rfl, h.qne, by rw [hf, List.append_nil]⟩
    · refine ⟨Qd ++ [s.fill], by rw [decide_eq_false hf]; exact List.append_nil _, fun b hb => ?_, by simp⟩
      rcases List.mem_append.mp hb with hb | hb
      · exact h.qne b hb
      · rw [List.mem_singleton.mp hb]; exact hf
  refine ⟨Qd', { h with
    pcur := succ_mod_wrap hn h.pcur
    blen := by rw [← h.blen]; exact List.length_set
    out := by have := h.out; dsimp only; omega
    tr := by show s.trash + (A + 1) + 0 = _; omega
    qlen := by dsimp only; rw [hQ, List.length_append, List.length_singleton]; omega
    qne := hne
    qblk := by
      dsimp only; rw [hQ, h.pcur]
      exact qblk_push h.blen (by omega) (by omega) hqb
    bytes := by rw [← hby, hfl]; simp
    pois := fun hf => ⟨(hend (of_decide_eq_true hf)).1, (hend (of_decide_eq_true hf)).2, .inl rfl⟩
    join := fun hj => by simp at hj
    joined := nofun
    exited := fun he => by have := (h.exited he).2; rw [hq] at this; cases this }⟩

theorem inv_cWrite (h : Inv p s A D Qd) (hs : step p s .cWrite = some s') : ∃ Qd', Inv p s' A D Qd' := by
  obtain ⟨hc, hcase⟩ := step_cWrite hs
  have hout := h.out; have hql := h.qlen; have hqb := h.qblk
  rw [hc] at hout hql hqb
  simp only [hC, eC, rC, Nat.add_zero] at hout hql hqb
  -- the block the writer holds is the head of the queue
  have h0 : s.blocks.getD s.cCur [] = (Qd ++ ptail s.poisoned).getD 0 [] := by
    rw [h.ccur]; exact hqb 0 D (by omega) rfl
  cases Qd with
  | nil =>
    -- no data block is queued, so the block is the poison
    have hpo : s.poisoned = true := by
      cases hq : s.poisoned
      · rw [hq] at hql; simp [ptail] at hql; omega
      · rfl
    rw [hpo] at h0
    obtain ⟨-, rfl⟩ := hcase.resolve_right fun g => g.1 h0
    exact ⟨[], { h with
      out := by show s.output + 1 + D + 1 = A + 1; omega
      qlen := hql
      qblk := hqb
      joined := fun _ => rfl
      exited := fun _ => ⟨rfl, hpo⟩ }⟩
  | cons b Q =>
    obtain ⟨-, rfl⟩ := hcase.resolve_left fun g => h.qne b List.mem_cons_self (h0.symm.trans g.1)
    have hby := h.bytes
    rw [show s.blocks.getD s.cCur [] = b from h0]
    exact ⟨Q, { h with
      out := hout
      qlen := by simp only [List.cons_append, List.length_cons] at hql; dsimp only [rC]; omega
      qne := fun b' hb' => h.qne b' (List.mem_cons_of_mem _ hb')
      qblk := fun j k hj hk => by
        dsimp only [rC] at hj hk
        rw [hqb (j + 1) k (by simp only [List.cons_append, List.length_cons]; omega) (by omega)]; rfl
      bytes := by rw [← hby]; simp
      joined := fun hj => by have := h.joined hj; rw [hc] at this; cases this
      exited := nofun }⟩

theorem inv_step (hn : 1 ≤ p.nBlocks) (hb : 1 ≤ p.blockSize) {l : Label} (h : Inv p s A D Qd) (hs : step p s l = some s') :
    ∃ A' D' Qd', Inv p s' A' D' Qd' := by
  cases l with
  | pAcquire => exact ⟨_, _, _, inv_pAcquire h hs⟩
  | pCall => exact ⟨_, _, _, inv_pCall h hs⟩
  | pCopy => exact ⟨_, _, _, inv_pCopy h hs⟩
  | pSpill => exact ⟨_, _, inv_pSpill hn hb h hs⟩
  | pJoin => exact ⟨_, _, _, inv_pJoin h hs⟩
  | cAcquire => exact ⟨_, _, _, inv_cAcquire h hs⟩
  | cWrite => exact ⟨_, _, inv_cWrite h hs⟩
  | cRelease => exact ⟨_, _, _, inv_cRelease hn h hs⟩

theorem inv_of_reachable (hn : 1 ≤ p.nBlocks) (hb : 1 ≤ p.blockSize) (hw : p.WF) (hr : Reachable p s) : ∃ A D Qd, Inv p s A D Qd := by
  induction hr with
  | init => exact ⟨0, 0, [], inv_init hw⟩
  | step _ hs ih => obtain ⟨A, D, Qd, h⟩ := ih; exact inv_step hn hb h hs

theorem bytes_prefix (h : Inv p s A D Qd) : s.file <+: allBytes p := by
  rw [← h.bytes]
  simp only [List.append_assoc]
  exact List.prefix_append _ _

theorem bytes_final (h : Inv p s A D Qd) (hf : Final s) : s.file = allBytes p := by
  have hj : s.pPc = .joined := hf
  have he := h.exited (h.joined hj)
  have hp := h.pois he.2
  have hb := h.bytes
  rw [he.1, hp.1, hp.2.1, hj] at hb
  simpa using hb

theorem writer_enabled (h1 : s.cPc ≠ .exited) (h2 : s.cPc = .acquiring → 0 < s.output) : ∃ l s', step p s l = some s' := by
  cases hc : s.cPc with
  | acquiring => exact ⟨.cAcquire, _, if_pos ⟨hc, h2 hc⟩⟩
  | holding => exact ⟨.cWrite, by dsimp only [step]; rw [if_pos hc]; split <;> exact ⟨_, rfl⟩⟩
  | released => exact ⟨.cRelease, _, if_pos hc⟩
  | exited => exact absurd hc h1

/-- while the caller waits for a free block, all `nBlocks ≥ 2` blocks are with the writer thread, which has not seen the
    poison yet (only one block would be out then) -/
theorem writer_enabled_of_blocked (hn : 2 ≤ p.nBlocks) (h : Inv p s A D Qd) (hg : gP s.pPc = 0) (ht : ¬ 0 < s.trash) :
    ∃ l s', step p s l = some s' := by
  have ho := h.out; have htr := h.tr
  rw [hg] at htr
  apply writer_enabled
  · intro he
    have hq := h.qlen
    rw [(h.exited he).1, (h.exited he).2, he] at hq
    simp only [ptail, rC, if_true, List.nil_append, List.length_singleton] at hq
    omega
  · intro ha
    rw [ha] at ho; simp only [hC, eC] at ho
    omega

theorem caller_enabled_of_ready (h : Inv p s A D Qd) (hp : s.pPc = .ready) : ∃ l s', step p s l = some s' := by
  have hpo := ready_not_poisoned h hp
  by_cases hn0 : s.need = 0
  · by_cases hd : s.data = []
    · cases hc : s.calls with
      | nil => exact ⟨.pSpill, by by_cases hf : s.fill = [] <;> simp [step, hp, hpo, hd, hc, hf, hn0]⟩
      | cons c rest => exact ⟨.pCall, _, by dsimp only [step]; rw [hc]; exact if_pos ⟨hp, hd, hn0, by rw [hpo]; rfl⟩⟩
    · by_cases hf : s.fill.length < p.blockSize
      · exact ⟨.pCopy, _, (if_pos hn0).trans (if_pos ⟨hp, hd, hf⟩)⟩
      · have hfe : s.fill.length = p.blockSize := Nat.le_antisymm h.fillle (Nat.le_of_not_lt hf)
        exact ⟨.pSpill, by simp [step, hp, hpo, hd, hfe, hn0]⟩
  · by_cases hroom : s.need ≤ p.blockSize - s.fill.length
    · exact ⟨.pCopy, _, (if_neg hn0).trans (if_pos ⟨hp, hroom⟩)⟩
    · -- `Ensure(need)` with `need ≤ blockSize` fails only on a block that already holds something
      have hfne : s.fill ≠ [] := fun e => by have := h.needle; rw [e] at hroom; exact hroom this
      exact ⟨.pSpill, by simp [step, hp, hpo, hn0, Nat.pos_of_ne_zero hn0, Nat.lt_of_not_le hroom, hfne]⟩

theorem progress (hn : 2 ≤ p.nBlocks) (h : Inv p s A D Qd) : Final s ∨ ∃ l s', step p s l = some s' := by
  cases hp : s.pPc
  case ready => exact .inr (caller_enabled_of_ready h hp)
  case joined => exact .inl hp
  case joining =>
    -- the poison is queued, so the writer thread has a block to take until it has exited
    right
    by_cases he : s.cPc = .exited
    · exact ⟨.pJoin, _, if_pos ⟨hp, he⟩⟩
    · refine writer_enabled he fun ha => ?_
      have ho := h.out; have hq := h.qlen
      rw [h.join (.inl hp), ha] at hq; rw [ha] at ho
      simp only [ptail, rC, hC, eC, if_true, List.length_append, List.length_singleton] at ho hq
      omega
  all_goals
    right
    by_cases ht : 0 < s.trash
    · exact ⟨.pAcquire, by simp [step, hp, ht]⟩
    · exact writer_enabled_of_blocked hn h (by rw [hp]; rfl) ht

def wc : CPc → Nat | .exited => 0 | .acquiring => 2 | .released => 3 | .holding => 4
def wp (s : State) : Nat :=
  match s.pPc with
  | .joined => 0
  | .joining => 1
  | .posted => if s.poisoned then 2 else 7
  | .acquiring => 7
  | .ready => 6 + 5 * s.fill.length
/-- 7 per byte and per call still to come, of which a byte keeps 5 while it sits in the caller's block (it still costs a spill
    and the acquire after it), 6 for a pending `Ensure`, 3 per block on its way to the writer thread (acquire, write, release:
    `wc` 2 → 4 → 3 → 2), and the program counters -/
def mu (s : State) : Nat :=
  7 * (s.data.length + (s.calls.map (·.bytes)).flatten.length) + 7 * s.calls.length + (if s.need = 0 then 0 else 6)
    + wp s + 3 * s.output + wc s.cPc

theorem mu_decreases (hb : 1 ≤ p.blockSize) {l : Label} (hs : step p s l = some s') : mu s' < mu s := by
  cases l with
  | pAcquire =>  -- `wp` 7 → 6 with an empty block, or 2 → 1 once the poison is queued
    obtain ⟨hg, -, rfl⟩ := step_pAcquire hs
    cases hp : s.pPc <;> rw [hp] at hg <;> cases hg
    all_goals cases hq : s.poisoned <;> simp [mu, wp, hp, hq]
  | pCall =>  -- the call's 7 pay for the 6 of its `Ensure`
    obtain ⟨c, rest, hc, hp, hd, hn, rfl⟩ := step_pCall hs
    simp [mu, wp, hp, hc, hd, hn]
    split <;> omega
  | pCopy =>  -- a byte copied drops from 7 to 5; `write()` copies at least one, the in-place path clears the `Ensure`
    obtain ⟨hp, ⟨hn, hd, hf, rfl⟩ | ⟨hn, hf, rfl⟩⟩ := step_pCopy hs
    · have := List.length_pos_iff.mpr hd
      simp [mu, wp, hp, hn]
      omega
    · simp [mu, wp, hp, Nat.ne_of_gt hn]
      omega
  | pSpill =>  -- `wp` 6 + 5 * fill.length → 7 and 3 for the block, which holds a byte; 6 → 2 and 3 for the poison
    obtain ⟨hp, hq, -, rfl⟩ := step_pSpill hb hs
    by_cases hf : s.fill = []
    · simp [mu, wp, hp, hf]
      omega
    · have := List.length_pos_iff.mpr hf
      simp [mu, wp, hp, hf]
      omega
  | pJoin =>
    obtain ⟨hp, -, rfl⟩ := step_pJoin hs
    simp [mu, wp, hp]
  | cAcquire =>  -- the block's 3 pay for `wc` 2 → 4
    obtain ⟨hc, ho, rfl⟩ := step_cAcquire hs
    simp [mu, wp, wc, hc]
    omega
  | cWrite =>  -- `wc` 4 → 3; on exit 4 → 0, which pays the 3 of the last post
    obtain ⟨hc, ⟨-, rfl⟩ | ⟨-, rfl⟩⟩ := step_cWrite hs
    · simp [mu, wp, wc, hc]
      omega
    · simp [mu, wp, wc, hc]
  | cRelease =>
    obtain ⟨hc, rfl⟩ := step_cRelease hs
    simp [mu, wp, wc, hc]

end PV.Lemmas.Queues.Ring2
