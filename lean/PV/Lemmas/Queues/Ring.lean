import PV.Model.Queues
import PV.Lemmas.Queues.Ring2
/-
`PV.Queues.Ring` (the stream with `write()` only) is `PV.Queues.Ring2` restricted to calls with `reserve = 0`: `up` embeds
parameters, states and labels, `step_up` says the two step functions agree along it, and the `ring_*` theorems of C16 are the
`ring2_*` theorems at `up p`.  `Inv` (with its weights `hC … ptail`) states the invariant of this ring in its own terms,
`Ring2.Inv` without the three fields about the pending `Ensure`; `inv_of_reachable` shows it of every reachable state by pulling
`Ring2.Inv` back along `up` (`inv_of_up`).  The theorems of C16 do not go through it.
-/
namespace PV.Lemmas.Queues.Ring
open PV.Queues PV.Queues.Ring

def hC : CPc → Nat | .acquiring => 0 | _ => 1
def eC : CPc → Nat | .exited => 1 | _ => 0
def rC : CPc → Nat | .released => 1 | _ => 0
def gP : PPc → Nat | .acquiring => 0 | .posted => 0 | _ => 1
def ptail (b : Bool) : List (List UInt8) := if b then [[]] else []

structure Inv (p : Params) (s : State) (A D : Nat) (Qd : List (List UInt8)) : Prop where
  pcur : s.pCur = A % p.nBlocks
  ccur : s.cCur = D % p.nBlocks
  blen : s.blocks.length = p.nBlocks
  out : s.output + D + hC s.cPc = A + eC s.cPc
  tr : s.trash + A + gP s.pPc = p.nBlocks + D
  qlen : (Qd ++ ptail s.poisoned).length + D + rC s.cPc = A
  qne : ∀ b ∈ Qd, b ≠ []
  qblk : ∀ j k, j < (Qd ++ ptail s.poisoned).length → k = D + rC s.cPc + j →
    s.blocks.getD (k % p.nBlocks) [] = (Qd ++ ptail s.poisoned).getD j []
  bytes : s.file ++ Qd.flatten ++ (if s.pPc = .ready then s.fill else []) ++ s.data ++ s.calls.flatten = p.calls.flatten
  fillle : s.fill.length ≤ p.blockSize
  pois : s.poisoned = true → s.data = [] ∧ s.calls = [] ∧ (s.pPc = .posted ∨ s.pPc = .joining ∨ s.pPc = .joined)
  join : (s.pPc = .joining ∨ s.pPc = .joined) → s.poisoned = true
  joined : s.pPc = .joined → s.cPc = .exited
  exited : s.cPc = .exited → Qd = [] ∧ s.poisoned = true
  bad : s.bad = false

def upP : PPc → Ring2.PPc
  | .acquiring => .acquiring | .ready => .ready | .posted => .posted | .joining => .joining | .joined => .joined
def upC : CPc → Ring2.CPc
  | .acquiring => .acquiring | .holding => .holding | .released => .released | .exited => .exited
def upL : Label → Ring2.Label
  | .pAcquire => .pAcquire | .pCall => .pCall | .pCopy => .pCopy | .pSpill => .pSpill | .pJoin => .pJoin
  | .cAcquire => .cAcquire | .cWrite => .cWrite | .cRelease => .cRelease
def upCalls (cs : List (List UInt8)) : List Ring2.Call := cs.map (⟨0, ·⟩)
def up (p : Params) : Ring2.Params := ⟨p.nBlocks, p.blockSize, upCalls p.calls⟩
def upS (s : State) : Ring2.State :=
  { output := s.output, trash := s.trash, blocks := s.blocks, pCur := s.pCur, pPc := upP s.pPc, fill := s.fill, data := s.data,
    need := 0, calls := upCalls s.calls, poisoned := s.poisoned, cCur := s.cCur, cPc := upC s.cPc, file := s.file, bad := s.bad }

theorem upP_eq (x : PPc) (y : Ring2.PPc) :
    upP x = y ↔ x = (match y with
      | .acquiring => .acquiring | .ready => .ready | .posted => .posted | .joining => .joining | .joined => .joined) := by
  cases x <;> cases y <;> decide

theorem upC_eq (x : CPc) (y : Ring2.CPc) :
    upC x = y ↔ x = (match y with | .acquiring => .acquiring | .holding => .holding | .released => .released | .exited => .exited) := by
  cases x <;> cases y <;> decide

theorem bytes_upCalls (cs : List (List UInt8)) : ((upCalls cs).map (·.bytes)).flatten = cs.flatten := by
  simp [upCalls, Function.comp_def]

theorem allBytes_up (p : Params) : Ring2.allBytes (up p) = p.calls.flatten := bytes_upCalls p.calls

theorem up_wf (p : Params) : (up p).WF := by
  intro c hc
  obtain ⟨_, _, rfl⟩ := List.mem_map.mp hc
  exact ⟨Nat.zero_le _, nofun⟩

theorem upCalls_eq_nil (cs : List (List UInt8)) : upCalls cs = [] ↔ cs = [] := List.map_eq_nil_iff

/-- guards and updates of the two step functions agree once `need = 0` and `reserve = 0` are put in -/
theorem step_up (p : Params) (s : State) (l : Label) : Ring2.step (up p) (upS s) (upL l) = (step p s l).map upS := by
  cases l
  case pCall =>
    simp only [upL, Ring2.step, step, upS]
    cases s.calls <;>
      simp only [upCalls, List.map, upP_eq, apply_ite (Option.map upS), Option.map_some, Option.map_none, true_and] <;> rfl
  all_goals
    simp only [upL, Ring2.step, step, upS, up, Ring2.next, next, upP_eq, upC_eq, upCalls_eq_nil, apply_ite (Option.map upS),
      Option.map_some, Option.map_none, apply_ite upP, Nat.lt_irrefl, false_and, true_and, if_true, if_false]
  all_goals rfl

theorem reachable_up {p : Params} {s : State} (hr : Reachable p s) : Ring2.Reachable (up p) (upS s) := by
  induction hr with
  | init => exact .init
  | step _ hs ih => exact .step ih (by rw [step_up, hs]; rfl)

/-- a step of the image comes from a step: `upL` reaches every label -/
theorem step_of_up {p : Params} {s : State} {l2 : Ring2.Label} {s2 : Ring2.State}
    (h : Ring2.step (up p) (upS s) l2 = some s2) : ∃ l s', step p s l = some s' := by
  obtain ⟨l, rfl⟩ : ∃ l, upL l = l2 :=
    ⟨match l2 with
      | .pAcquire => .pAcquire | .pCall => .pCall | .pCopy => .pCopy | .pSpill => .pSpill | .pJoin => .pJoin
      | .cAcquire => .cAcquire | .cWrite => .cWrite | .cRelease => .cRelease, by cases l2 <;> rfl⟩
  rw [step_up] at h
  obtain ⟨s', hs, -⟩ := Option.map_eq_some_iff.mp h
  exact ⟨l, s', hs⟩

theorem inv_of_up {p : Params} {s : State} {A D : Nat} {Qd : List (List UInt8)} (h : Ring2.Inv (up p) (upS s) A D Qd) :
    Inv p s A D Qd := by
  have hP (y) : upP s.pPc = y ↔ s.pPc = _ := upP_eq s.pPc y
  have hCe (y) : upC s.cPc = y ↔ s.cPc = _ := upC_eq s.cPc y
  have hh : Ring2.hC (upC s.cPc) = hC s.cPc := by cases s.cPc <;> rfl
  have he : Ring2.eC (upC s.cPc) = eC s.cPc := by cases s.cPc <;> rfl
  have hr : Ring2.rC (upC s.cPc) = rC s.cPc := by cases s.cPc <;> rfl
  have hg : Ring2.gP (upP s.pPc) = gP s.pPc := by cases s.pPc <;> rfl
  exact {
    pcur := h.pcur, ccur := h.ccur, blen := h.blen, qne := h.qne, fillle := h.fillle, bad := h.bad
    out := by rw [← hh, ← he]; exact h.out
    tr := by rw [← hg]; exact h.tr
    qlen := by rw [← hr]; exact h.qlen
    qblk := by rw [← hr]; exact h.qblk
    bytes := by simpa only [upS, up, Ring2.allBytes, bytes_upCalls, hP] using h.bytes
    pois := fun hq => by simpa only [upS, upCalls_eq_nil, hP] using h.pois hq
    join := fun hj => h.join (by simpa only [upS, hP] using hj)
    joined := fun hj => (hCe _).mp (h.joined ((hP _).mpr hj))
    exited := fun hx => h.exited ((hCe _).mpr hx) }

theorem inv_of_reachable {p : Params} (hn : 1 ≤ p.nBlocks) (hb : 1 ≤ p.blockSize) {s : State} (hr : Reachable p s) :
    ∃ A D Qd, Inv p s A D Qd := by
  obtain ⟨A, D, Qd, h⟩ := Ring2.inv_of_reachable (p := up p) hn hb (up_wf p) (reachable_up hr)
  exact ⟨A, D, Qd, inv_of_up h⟩

end PV.Lemmas.Queues.Ring
