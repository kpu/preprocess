import PV.Model.Queues
/-
`Inv` for the UnboundedSingleQueue LTS counts the entries through the semaphore (`wcount`, `pcount`) and keeps each thread's
position on its page (`pLo` … `cRoom`): the page the consumer steps onto is one the producer has reached, hence linked.
-/
namespace PV.Lemmas.Queues.USQ
open PV.Queues PV.Queues.USQ

/- Weights of the program counters in the counting fields: `pw` is 1 between the producer's write and its post, `pbusy`
while it is inside `Produce`, `cw` between the consumer's semaphore wait and its read. -/
def pw : PPc → Nat
  | .wrote => 1
  | _ => 0

def pbusy : PPc → Nat
  | .idle => 0
  | _ => 1

def cw : CPc → Nat
  | .idle => 0
  | _ => 1

structure Inv (p : Params) (s : State) : Prop where
  bad : s.bad = false
  written : s.written = List.range s.written.length
  got : s.got = List.range s.r
  wcount : s.written.length = s.produced + pw s.pPc
  pcount : s.produced = s.valid + s.r + cw s.cPc
  pLo : s.pPage * p.pageSize ≤ s.written.length
  pHi : s.written.length ≤ s.pPage * p.pageSize + p.pageSize
  pRoom : s.pPc = .paged → s.written.length < s.pPage * p.pageSize + p.pageSize
  linked : s.linked = s.pPage + 1
  cLo : s.cPage * p.pageSize ≤ s.r
  cHi : s.r ≤ s.cPage * p.pageSize + p.pageSize
  cRoom : s.cPc = .paged → s.r < s.cPage * p.pageSize + p.pageSize
  freed : s.freed = s.cPage
  pages : s.cPage ≤ s.pPage
  prodLe : s.produced + pbusy s.pPc ≤ p.n

theorem range_snoc (l : List Nat) (h : l = List.range l.length) :
    l ++ [l.length] = List.range (l ++ [l.length]).length := by
  rw [List.length_append, List.length_singleton, List.range_succ, ← h]

variable {p : Params} {s s' : State}

/-- A consumer that has passed `valid_` has an entry to read. -/
theorem r_lt (h : Inv p s) (hc : cw s.cPc = 1) : s.r < s.written.length := by
  have h1 := h.wcount
  have h2 := h.pcount
  omega

theorem inv_init (p : Params) : Inv p init := by
  constructor <;> simp [init, pw, cw, pbusy]

theorem inv_step (hp : 1 ≤ p.pageSize) {l : Label} (h : Inv p s) (hs : step p s l = some s') : Inv p s' := by
  cases l with
  | pPage =>  -- `Produce` begins (`pbusy`); at a page end a page is linked, and `pLo`, `pHi`, `pRoom` start afresh on it
    obtain ⟨⟨hpc, hlt⟩, hs⟩ := Option.ite_none_right_eq_some.mp hs
    have hwc : s.written.length = s.produced + pw .paged := (hpc ▸ h.wcount :)
    split at hs
    · next hw =>
      cases hs
      exact { h with
        wcount := hwc
        pLo := Nat.le_of_eq hw.symm
        pHi := hw ▸ Nat.le_add_right ..
        pRoom := fun _ => hw ▸ Nat.lt_add_of_pos_right hp
        linked := congrArg (· + 1) h.linked
        pages := Nat.le_succ_of_le h.pages
        prodLe := hlt }
    · next hw =>
      cases hs
      exact { h with
        wcount := hwc
        pRoom := fun _ => Nat.lt_of_le_of_ne h.pHi (by rwa [Nat.add_mul, Nat.one_mul] at hw)
        prodLe := hlt }
  | pWrite =>  -- the entry has room by `pRoom`; its page is not freed, the consumer being no further (`pages`)
    obtain ⟨hpc, hs⟩ := Option.ite_none_right_eq_some.mp hs
    cases hs
    have hW : (s.written ++ [s.written.length]).length = s.written.length + 1 := List.length_append
    exact { h with
      bad := by
        show (s.bad || decide (s.pPage < s.freed)) = false
        rw [h.bad, h.freed, decide_eq_false (Nat.not_lt_of_le h.pages)]; rfl
      written := range_snoc _ h.written
      wcount := by rw [hW, h.wcount, hpc]; rfl
      pLo := hW ▸ Nat.le_succ_of_le h.pLo
      pHi := hW ▸ h.pRoom hpc
      pRoom := nofun
      prodLe := (hpc ▸ h.prodLe :) }
  | pPost =>  -- the unit passes from `pw` to `valid`
    obtain ⟨hpc, hs⟩ := Option.ite_none_right_eq_some.mp hs
    cases hs
    exact { h with
      wcount := (hpc ▸ h.wcount :)
      pcount := by rw [Nat.add_right_comm _ 1, Nat.add_right_comm _ 1]; exact congrArg (· + 1) h.pcount
      pRoom := nofun
      prodLe := (hpc ▸ h.prodLe :) }
  | cWait =>  -- a unit passes from `valid` to `cw`
    obtain ⟨⟨hpc, -, hv⟩, hs⟩ := Option.ite_none_right_eq_some.mp hs
    cases hs
    exact { h with
      pcount := by
        show _ = s.valid - 1 + s.r + 1
        rw [Nat.add_right_comm, Nat.sub_add_cancel hv, h.pcount, hpc]; rfl
      cRoom := nofun }
  | cPage =>  -- at a page end the consumer frees its page and follows `next`
    obtain ⟨hpc, hs⟩ := Option.ite_none_right_eq_some.mp hs
    have hpcn : s.produced = s.valid + s.r + cw .paged := (hpc ▸ h.pcount :)
    split at hs
    · next hr =>
      cases hs
      -- the entry to read lies on a page the producer has reached, so that page is linked
      have hlt : s.cPage < s.pPage := by
        have : (s.cPage + 1) * p.pageSize < (s.pPage + 1) * p.pageSize := by
          rw [← hr, Nat.add_mul s.pPage, Nat.one_mul]
          exact Nat.lt_of_lt_of_le (r_lt h (congrArg cw hpc)) h.pHi
        exact Nat.lt_of_succ_lt_succ (Nat.lt_of_mul_lt_mul_right this)
      exact { h with
        bad := by
          show (s.bad || decide (s.linked ≤ s.cPage + 1)) = false
          rw [h.bad, h.linked, decide_eq_false (Nat.not_le_of_lt (Nat.succ_lt_succ hlt))]; rfl
        pcount := hpcn
        cLo := Nat.le_of_eq hr.symm
        cHi := hr ▸ Nat.le_add_right ..
        cRoom := fun _ => hr ▸ Nat.lt_add_of_pos_right hp
        freed := rfl
        pages := hlt }
    · next hr =>
      cases hs
      exact { h with
        pcount := hpcn
        cRoom := fun _ => Nat.lt_of_le_of_ne h.cHi (by rwa [Nat.add_mul, Nat.one_mul] at hr) }
  | cRead =>  -- there is an entry to read (`r_lt`), and it is the number `r`
    obtain ⟨hpc, hs⟩ := Option.ite_none_right_eq_some.mp hs
    split at hs
    · next x hx =>
      cases hs
      have hxr : x = s.r := by
        rw [h.written, List.getElem?_range (h.written ▸ (List.getElem?_eq_some_iff.mp hx).1)] at hx
        exact (Option.some.inj hx).symm
      exact { h with
        got := by rw [hxr, List.range_succ, ← h.got]
        pcount := (hpc ▸ h.pcount :)
        cLo := Nat.le_succ_of_le h.cLo
        cHi := h.cRoom hpc
        cRoom := nofun }
    · next hx => exact absurd (List.getElem?_eq_none_iff.mp hx) (Nat.not_le_of_lt (r_lt h (congrArg cw hpc)))

theorem inv_of_reachable (hp : 1 ≤ p.pageSize) (hr : Reachable p s) : Inv p s := by
  induction hr with
  | init => exact inv_init p
  | step _ hs ih => exact inv_step hp ih hs

theorem progress {p : Params} {s : State} (h : Inv p s) :
    Final p s ∨ ∃ l s', step p s l = some s' := by
  cases hp : s.pPc with
  | paged => exact .inr ⟨.pWrite, _, if_pos hp⟩
  | wrote => exact .inr ⟨.pPost, _, if_pos hp⟩
  | idle =>
    by_cases hlt : s.produced < p.n
    · exact .inr ⟨.pPage, by dsimp only [step]; rw [if_pos ⟨hp, hlt⟩]; split <;> exact ⟨_, rfl⟩⟩
    cases hc : s.cPc with
    | waited => exact .inr ⟨.cPage, by dsimp only [step]; rw [if_pos hc]; split <;> exact ⟨_, rfl⟩⟩
    | paged => exact .inr ⟨.cRead, by dsimp only [step]; rw [if_pos hc]; split <;> exact ⟨_, rfl⟩⟩
    | idle =>
      have hgl : s.got.length = s.r := by rw [h.got, List.length_range]
      have h1 : s.produced = s.valid + s.r := (hc ▸ h.pcount :)
      have hpn : s.produced = p.n := Nat.le_antisymm (hp ▸ h.prodLe :) (Nat.le_of_not_lt hlt)
      by_cases hv : 0 < s.valid
      · have hg : s.got.length < p.n := by rw [hgl, ← hpn, h1]; exact Nat.lt_add_of_pos_left hv
        exact .inr ⟨.cWait, _, if_pos ⟨hc, hg, hv⟩⟩
      · rw [Nat.eq_zero_of_not_pos hv, Nat.zero_add] at h1
        exact .inl ⟨hp, hpn, hc, by rw [hgl, ← h1, hpn]⟩

theorem fifo (h : Inv p s) : s.got = List.range s.got.length ∧ s.got.length ≤ s.written.length := by
  have hgl : s.got.length = s.r := by rw [h.got, List.length_range]
  have h1 := h.wcount
  have h2 := h.pcount
  exact ⟨by rw [hgl]; exact h.got, by omega⟩

end PV.Lemmas.Queues.USQ
