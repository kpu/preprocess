import PV.Model.Base64
import PV.Spec.Base64
/-
The base64 codec against RFC 4648 (C09).  Encoder and decoder regroup the bits of a 24-bit number `n` between
base 256 (three bytes) and base 64 (four symbols) through an `int` accumulator; `Low` says how much of the
accumulator is known, `enc_group` / `dec_group` follow one group through either machine.
`valb` is the number of accumulator bits not yet written out, minus 6 in the encoder and minus 8 in the decoder.  Over
one group it runs -6, -4, -2, -6 (a byte in, a symbol out whenever six bits are there) and -8, -2, -4, -6, -8 (a symbol in,
a byte out whenever eight are); a lemma `…_mK` is the step taken at `valb = -K`.
The constants are 65536 = 256^2, 16777216 = 256^3 = 64^4, 262144 = 64^3, 4096 = 64^2.
-/
namespace PV.Lemmas.Base64
open PV.Base64 PV.Spec.Base64

theorem b64Table_eq : PV.Gen.b64Table = (List.range 64).map alpha := by decide +kernel

theorem tbl_alpha (i : Nat) (h : i < 64) : tbl i = alpha i := by
  simp [tbl, b64Table_eq, h]

theorem inv_alpha : ∀ i, i < 64 → inv (alpha i) = (i : Int) := by decide +kernel

/-- One pass along `INV_TABLE`.  (Asking for `inv b` byte by byte walks the list 256 times and costs ten times
    as much.) -/
theorem invTable_neg_one :
    PV.Gen.invTable.map (· == -1) = (List.range 256).map (fun n => !inAlphabet (UInt8.ofNat n)) := by
  decide +kernel

theorem inv_ne_neg_one_iff (b : UInt8) : inv b ≠ -1 ↔ inAlphabet b = true := by
  have h := congrArg (·[b.toNat]?) invTable_neg_one
  simp only [List.getElem?_map, List.getElem?_range (UInt8.toNat_lt b), UInt8.ofNat_toNat, Option.map_some] at h
  obtain ⟨x, hx, hx'⟩ := Option.map_eq_some_iff.mp h
  rw [inv, List.getD_eq_getElem?_getD, hx, Option.getD_some, Ne, ← beq_iff_eq, hx', Bool.not_eq_true',
    Bool.not_eq_false]

theorem alpha_inAlphabet (i : Nat) : inAlphabet (alpha i) = true := by
  by_cases h : i < 64
  · exact (inv_ne_neg_one_iff _).mp (by rw [inv_alpha i h]; omega)
  · obtain ⟨h1, h2, h3, h4⟩ : ¬i < 26 ∧ ¬i < 52 ∧ ¬i < 62 ∧ i ≠ 62 := by omega
    rw [alpha, if_neg h1, if_neg h2, if_neg h3, if_neg h4]
    decide

theorem inAlphabet_ne (b : UInt8) (h : inAlphabet b = true) : b ≠ 61 ∧ b ≠ 10 ∧ b ≠ 13 := by
  refine ⟨?_, ?_, ?_⟩ <;> (rintro rfl; exact absurd h (by decide))

/-- `v` agrees with `N` modulo `M`.  `M` always divides 2^32, which makes the wrap-around of the `int` invisible,
    and the accumulator is only ever read below `M`. -/
def Low (M : Nat) (v : Int) (N : Nat) : Prop := (M : Int) ∣ v - N

theorem wrap32_dvd (v : Int) : (4294967296 : Int) ∣ wrap32 v - v := by
  rw [wrap32, Int.sub_sub, Int.add_comm 2147483648 v]
  exact Int.dvd_emod_sub_self

namespace Low

theorem push {M : Nat} {v : Int} {N N' : Nat} (h : Low M v N) (m c : Nat) (hM : M * m ∣ 4294967296)
    (hN : N * m + c = N') : Low (M * m) (wrap32 (v * m + c)) N' := by
  have h1 : ((M * m : Nat) : Int) ∣ wrap32 (v * m + c) - (v * m + c) :=
    Int.dvd_trans (Int.natCast_dvd_natCast.mpr hM) (wrap32_dvd _)
  have h2 : ((M * m : Nat) : Int) ∣ v * m + c - (N' : Int) := by
    rw [← hN, Int.natCast_add, Int.natCast_mul, Int.natCast_mul, Int.add_sub_add_right, ← Int.sub_mul]
    exact Int.mul_dvd_mul_right _ h
  have := Int.dvd_add h1 h2
  rwa [← Int.add_sub_assoc, Int.sub_add_cancel] at this

theorem first (v : Int) (m c : Nat) (hm : m ∣ 4294967296) : Low m (wrap32 (v * m + c)) c := by
  have h0 : Low 1 v 0 := Int.one_dvd _
  simpa using h0.push m c (by simpa using hm) rfl

theorem read {M : Nat} {v : Int} {N : Nat} (h : Low M v N) (sh k : Nat) (hM : 2 ^ sh * k ∣ M) :
    shrAnd v sh k = N / 2 ^ sh % k := by
  obtain ⟨t, ht⟩ := Int.dvd_trans (Int.natCast_dvd_natCast.mpr hM) h
  rw [Int.sub_eq_iff_eq_add', Int.natCast_mul, Int.mul_assoc] at ht
  unfold shrAnd
  rw [ht, Int.add_mul_ediv_left _ _ (Int.natCast_ne_zero.mpr (Nat.pos_iff_ne_zero.mp (Nat.two_pow_pos sh))),
    Int.add_mul_emod_self_left, ← Int.natCast_ediv, ← Int.natCast_emod, Int.toNat_natCast]

end Low

theorem digits256 {a b c n : Nat} (ha : a < 256) (hb : b < 256) (hc : c < 256) (hn : n = a * 65536 + b * 256 + c) :
    n / 65536 = a ∧ n / 256 % 256 = b ∧ n % 256 = c ∧ n < 16777216 := by
  have h : c + 256 * (b + 256 * a) = n := by omega
  obtain ⟨h0, hc'⟩ := (Nat.div_mod_unique (by decide)).mpr ⟨h, hc⟩
  obtain ⟨h1, hb'⟩ := (Nat.div_mod_unique (by decide)).mpr ⟨rfl, hb⟩
  have ha' : n / 65536 = a := by rw [← Nat.div_div_eq_div_mul n 256 256, h0, h1]
  exact ⟨ha', by rw [h0, hb'], hc', Nat.lt_mul_of_div_lt (ha'.symm ▸ ha) (by decide)⟩

theorem div_mul_add_mod (n D m : Nat) : n / (D * m) * m + n / D % m = n / D := by
  rw [← Nat.div_div_eq_div_mul, Nat.div_add_mod']

theorem encByte_m6 (x : Int) (out : List UInt8) (c : UInt8) :
    encByte ⟨x, -6, out⟩ c =
      ⟨wrap32 (x * 256 + c.toNat), -4, tbl (shrAnd (wrap32 (x * 256 + c.toNat)) 2 64) :: out⟩ := by
  simp [encByte, encDrain, encDrainF]

theorem encByte_m4 (x : Int) (out : List UInt8) (c : UInt8) :
    encByte ⟨x, -4, out⟩ c =
      ⟨wrap32 (x * 256 + c.toNat), -2, tbl (shrAnd (wrap32 (x * 256 + c.toNat)) 4 64) :: out⟩ := by
  simp [encByte, encDrain, encDrainF]

theorem encByte_m2 (x : Int) (out : List UInt8) (c : UInt8) :
    encByte ⟨x, -2, out⟩ c =
      ⟨wrap32 (x * 256 + c.toNat), -6, tbl (shrAnd (wrap32 (x * 256 + c.toNat)) 0 64) ::
        tbl (shrAnd (wrap32 (x * 256 + c.toNat)) 6 64) :: out⟩ := by
  simp [encByte, encDrain, encDrainF]

/-- One group, byte by byte, from any accumulator `x`: after `k` bytes the low `8k` bits of the accumulator are the
    top `8k` bits of the group's number `n`, and every read stays below them. -/
theorem enc_group (x : Int) (a b c : UInt8) {n : Nat} (hn : n = a.toNat * 65536 + b.toNat * 256 + c.toNat) :
    ∃ v1 v2 v3 : Int,
      (∀ out, encByte ⟨x, -6, out⟩ a = ⟨v1, -4, alpha (n / 262144) :: out⟩) ∧
      (∀ out, encByte ⟨v1, -4, out⟩ b = ⟨v2, -2, alpha (n / 4096 % 64) :: out⟩) ∧
      (∀ out, encByte ⟨v2, -2, out⟩ c = ⟨v3, -6, alpha (n % 64) :: alpha (n / 64 % 64) :: out⟩) := by
  obtain ⟨q1, q2, q3, hlt⟩ := digits256 a.toNat_lt b.toNat_lt c.toNat_lt hn
  have m64 : ∀ k, k % 64 < 64 := fun k => Nat.mod_lt k (by decide)
  have e1 := fun out => encByte_m6 x out a
  have l1 : Low 256 (wrap32 (x * 256 + a.toNat)) (n / 65536) := q1 ▸ Low.first x 256 _ (by decide)
  generalize wrap32 (x * 256 + a.toNat) = v1 at e1 l1
  have e2 := fun out => encByte_m4 v1 out b
  have l2 : Low 65536 (wrap32 (v1 * 256 + b.toNat)) (n / 256) :=
    l1.push 256 _ (by decide) (q2 ▸ div_mul_add_mod n 256 256)
  generalize wrap32 (v1 * 256 + b.toNat) = v2 at e2 l2
  have e3 := fun out => encByte_m2 v2 out c
  have l3 : Low 16777216 (wrap32 (v2 * 256 + c.toNat)) n := l2.push 256 _ (by decide) (q3 ▸ Nat.div_add_mod' n 256)
  generalize wrap32 (v2 * 256 + c.toNat) = v3 at e3 l3
  refine ⟨v1, v2, v3, fun out => ?_, fun out => ?_, fun out => ?_⟩
  · rw [e1, l1.read 2 64 (by decide), tbl_alpha _ (m64 _), Nat.div_div_eq_div_mul,
      Nat.mod_eq_of_lt (Nat.div_lt_of_lt_mul hlt)]
  · rw [e2, l2.read 4 64 (by decide), tbl_alpha _ (m64 _), Nat.div_div_eq_div_mul]
  · rw [e3, l3.read 6 64 (by decide), l3.read 0 64 (by decide), tbl_alpha _ (m64 _), tbl_alpha _ (m64 _),
      Nat.pow_zero, Nat.div_one]

/-- what `encode` does after the loop -/
def encFinish (s : EncSt) : List UInt8 :=
  (encPad (if s.valb > -6 then tbl (shrAnd (wrap32 (s.val * 256)) (s.valb + 8).toNat 64) :: s.out
    else s.out)).reverse

/-- The symbol flushed at the end is the first one that a zero byte would produce (RFC 4648: the last group is
    completed with zero bits), so `enc_group` with zero bytes covers the incomplete groups. -/
theorem encFinish_m4 (x : Int) (out : List UInt8) :
    encFinish ⟨x, -4, out⟩ = (encPad (encByte ⟨x, -4, out⟩ 0).out).reverse := by
  simp [encFinish, encByte_m4]

theorem encFinish_m2 (x : Int) (out : List UInt8) :
    encFinish ⟨x, -2, out⟩ = (encPad (encByte ⟨x, -2, out⟩ 0).out.tail).reverse := by
  simp [encFinish, encByte_m2]

theorem encPad_0 (out : List UInt8) (h : out.length % 4 = 0) : encPad out = out := by
  simp [encPad, h]
theorem encPad_2 (out : List UInt8) (h : out.length % 4 = 2) : encPad out = 61 :: 61 :: out := by
  simp [encPad, h]
theorem encPad_3 (out : List UInt8) (h : out.length % 4 = 3) : encPad out = 61 :: out := by
  simp [encPad, h]

theorem enc_fold (bs : List UInt8) (x : Int) (out : List UInt8) (hl : out.length % 4 = 0) :
    encFinish (bs.foldl encByte ⟨x, -6, out⟩) = out.reverse ++ rfc4648 bs := by
  fun_induction rfc4648 bs generalizing x out with
  | case1 a b c r n ih =>
    obtain ⟨v1, v2, v3, g1, g2, g3⟩ := enc_group x a b c (n := n) rfl
    rw [List.foldl_cons, List.foldl_cons, List.foldl_cons, g1, g2, g3,
      ih _ _ (by exact (Nat.add_mod_right out.length 4).trans hl)]
    simp
  | case2 a b n =>
    obtain ⟨v1, v2, v3, g1, g2, g3⟩ := enc_group x a b 0 (n := n) (by simp [n])
    rw [List.foldl_cons, List.foldl_cons, List.foldl_nil, g1, g2, encFinish_m2, g3,
      List.tail_cons, encPad_3 _ (by show (out.length + 3) % 4 = 3; rw [Nat.add_mod, hl])]
    simp [pad]
  | case3 a n =>
    obtain ⟨v1, v2, v3, g1, g2, g3⟩ := enc_group x a 0 0 (n := n) (by simp [n])
    rw [List.foldl_cons, List.foldl_nil, g1, encFinish_m4, g2, encPad_2 _ (by show (out.length + 2) % 4 = 2; rw [Nat.add_mod, hl])]
    simp [pad]
  | case4 => simp [encFinish, encPad_0 _ hl]

theorem encode_eq (bs : List UInt8) : encode bs = rfc4648 bs :=
  enc_fold bs 0 [] rfl

theorem alpha_ne_pad (i : Nat) : (alpha i == 61) = false := by
  simpa using (inAlphabet_ne _ (alpha_inAlphabet i)).1

theorem decLoop_m8 {i : Nat} (h : i < 64) (r : List UInt8) (x : Int) (out : List UInt8) :
    decLoop (alpha i :: r) x (-8) out = decLoop r (wrap32 (x * 64 + i)) (-2) out := by
  simp [decLoop, alpha_ne_pad, inv_alpha i h]

theorem decLoop_m2 {i : Nat} (h : i < 64) (r : List UInt8) (x : Int) (out : List UInt8) :
    decLoop (alpha i :: r) x (-2) out =
      decLoop r (wrap32 (x * 64 + i)) (-4) (UInt8.ofNat (shrAnd (wrap32 (x * 64 + i)) 4 256) :: out) := by
  simp [decLoop, alpha_ne_pad, inv_alpha i h]

theorem decLoop_m4 {i : Nat} (h : i < 64) (r : List UInt8) (x : Int) (out : List UInt8) :
    decLoop (alpha i :: r) x (-4) out =
      decLoop r (wrap32 (x * 64 + i)) (-6) (UInt8.ofNat (shrAnd (wrap32 (x * 64 + i)) 2 256) :: out) := by
  simp [decLoop, alpha_ne_pad, inv_alpha i h]

theorem decLoop_m6 {i : Nat} (h : i < 64) (r : List UInt8) (x : Int) (out : List UInt8) :
    decLoop (alpha i :: r) x (-6) out =
      decLoop r (wrap32 (x * 64 + i)) (-8) (UInt8.ofNat (shrAnd (wrap32 (x * 64 + i)) 0 256) :: out) := by
  simp [decLoop, alpha_ne_pad, inv_alpha i h]

/-- One group, symbol by symbol: the same number `n`, now pushed in base 64 and read in base 256. -/
theorem dec_group (x : Int) (a b c : UInt8) {n : Nat} (hn : n = a.toNat * 65536 + b.toNat * 256 + c.toNat) :
    ∃ v2 v3 v4 : Int,
      (∀ r out, decLoop (alpha (n / 262144) :: alpha (n / 4096 % 64) :: r) x (-8) out = decLoop r v2 (-4) (a :: out)) ∧
      (∀ r out, decLoop (alpha (n / 64 % 64) :: r) v2 (-4) out = decLoop r v3 (-6) (b :: out)) ∧
      (∀ r out, decLoop (alpha (n % 64) :: r) v3 (-6) out = decLoop r v4 (-8) (c :: out)) := by
  obtain ⟨q1, q2, q3, hlt⟩ := digits256 a.toNat_lt b.toNat_lt c.toNat_lt hn
  have m64 : ∀ k, k % 64 < 64 := fun k => Nat.mod_lt k (by decide)
  have e1 := fun r out => decLoop_m8 (Nat.div_lt_of_lt_mul hlt : n / 262144 < 64) r x out
  have l1 : Low 64 (wrap32 (x * 64 + (n / 262144 : Nat))) _ := Low.first x 64 _ (by decide)
  generalize wrap32 (x * 64 + (n / 262144 : Nat)) = v1 at e1 l1
  have e2 := fun r out => decLoop_m2 (m64 (n / 4096)) r v1 out
  have l2 : Low 4096 (wrap32 (v1 * 64 + (n / 4096 % 64 : Nat))) _ := l1.push 64 _ (by decide) (div_mul_add_mod n 4096 64)
  generalize wrap32 (v1 * 64 + (n / 4096 % 64 : Nat)) = v2 at e2 l2
  have e3 := fun r out => decLoop_m4 (m64 (n / 64)) r v2 out
  have l3 : Low 262144 (wrap32 (v2 * 64 + (n / 64 % 64 : Nat))) _ := l2.push 64 _ (by decide) (div_mul_add_mod n 64 64)
  generalize wrap32 (v2 * 64 + (n / 64 % 64 : Nat)) = v3 at e3 l3
  have e4 := fun r out => decLoop_m6 (m64 n) r v3 out
  have l4 : Low 16777216 (wrap32 (v3 * 64 + (n % 64 : Nat))) _ := l3.push 64 _ (by decide) (Nat.div_add_mod' n 64)
  generalize wrap32 (v3 * 64 + (n % 64 : Nat)) = v4 at e4 l4
  refine ⟨v2, v3, v4, fun r out => ?_, fun r out => ?_, fun r out => ?_⟩
  · rw [e1, e2, l2.read 4 256 (by decide), Nat.div_div_eq_div_mul]
    show decLoop r v2 (-4) (UInt8.ofNat (n / 65536 % 256) :: out) = _
    rw [q1, Nat.mod_eq_of_lt a.toNat_lt, UInt8.ofNat_toNat]
  · rw [e3, l3.read 2 256 (by decide), Nat.div_div_eq_div_mul]
    show decLoop r v3 (-6) (UInt8.ofNat (n / 256 % 256) :: out) = _
    rw [q2, UInt8.ofNat_toNat]
  · rw [e4, l4.read 0 256 (by decide), Nat.pow_zero, Nat.div_one, q3, UInt8.ofNat_toNat]

/-- the symbols of the RFC 4648 encoding, without padding -/
def syms : List UInt8 → List UInt8
  | a :: b :: c :: r =>
    let n := a.toNat * 65536 + b.toNat * 256 + c.toNat
    alpha (n / 262144) :: alpha (n / 4096 % 64) :: alpha (n / 64 % 64) :: alpha (n % 64) :: syms r
  | [a, b] =>
    let n := a.toNat * 65536 + b.toNat * 256
    [alpha (n / 262144), alpha (n / 4096 % 64), alpha (n / 64 % 64)]
  | [a] =>
    let n := a.toNat * 65536
    [alpha (n / 262144), alpha (n / 4096 % 64)]
  | [] => []

theorem rfc_eq_syms (bs : List UInt8) :
    ∃ k, k ≤ (syms bs).length ∧ rfc4648 bs = syms bs ++ List.replicate k 61 := by
  fun_induction syms bs with
  | case1 a b c r n ih =>
    obtain ⟨k, hk, e⟩ := ih
    exact ⟨k, Nat.le_trans hk (Nat.le_add_right _ 4), by simp [rfc4648, e, n]⟩
  | case2 a b n => exact ⟨1, by simp, by simp [rfc4648, pad, n]⟩
  | case3 a n => exact ⟨2, by simp, by simp [rfc4648, pad, n, List.replicate]⟩
  | case4 => exact ⟨0, by simp, by simp [rfc4648]⟩

theorem syms_alpha (bs : List UInt8) : ∀ x ∈ syms bs, inAlphabet x = true := by
  fun_induction syms bs with
  | case1 a b c r n ih => simpa [alpha_inAlphabet] using ih
  | case2 | case3 | case4 => simp [alpha_inAlphabet]

theorem syms_ne_pad (bs : List UInt8) : ∀ x ∈ syms bs, x ≠ 61 :=
  fun x hx => (inAlphabet_ne x (syms_alpha bs x hx)).1

theorem decLoop_pads (k : Nat) (v vb : Int) (o : List UInt8) :
    decLoop (List.replicate k 61) v vb o = .ok o.reverse := by
  cases k <;> simp [decLoop, List.replicate]

theorem dec_syms (bs : List UInt8) (k : Nat) (x : Int) (out : List UInt8) :
    decLoop (syms bs ++ List.replicate k 61) x (-8) out = .ok (out.reverse ++ bs) := by
  fun_induction syms bs generalizing x out with
  | case1 a b c r n ih =>
    obtain ⟨v2, v3, v4, g1, g2, g3⟩ := dec_group x a b c (n := n) rfl
    simp only [List.cons_append]
    rw [g1, g2, g3, ih]
    simp
  | case2 a b n =>
    obtain ⟨v2, v3, v4, g1, g2, -⟩ := dec_group x a b 0 (n := n) (by simp [n])
    simp only [List.cons_append, List.nil_append]
    rw [g1, g2, decLoop_pads]
    simp
  | case3 a n =>
    obtain ⟨v2, v3, v4, g1, -, -⟩ := dec_group x a 0 0 (n := n) (by simp [n])
    simp only [List.cons_append, List.nil_append]
    rw [g1, decLoop_pads]
    simp
  | case4 => simp [decLoop_pads]

theorem rev_pads (l : List UInt8) (k : Nat) (h : ∀ x ∈ l, x ≠ 61) :
    (l ++ List.replicate k 61).reverse.takeWhile (· == 61) = List.replicate k 61 ∧
    (l ++ List.replicate k 61).reverse.dropWhile (· == 61) = l.reverse := by
  rw [List.reverse_append, List.reverse_replicate, List.takeWhile_append_of_pos (by simp),
    List.dropWhile_append_of_pos (by simp)]
  cases hr : l.reverse with
  | nil => simp
  | cons a r =>
    have : a ≠ 61 := h a (by simpa using List.mem_reverse.mp (hr ▸ List.mem_cons_self))
    simp [this]

theorem decode_syms (bs : List UInt8) (k : Nat) (hk : k ≤ (syms bs).length) :
    decode (syms bs ++ List.replicate k 61) = .ok bs := by
  -- `hk` is what the `reserve` check asks for: the padding is at most 3/4 of the length
  rw [decode, countPadding, (rev_pads _ k (syms_ne_pad bs)).1,
    if_neg (by simp only [List.length_append, List.length_replicate]; omega)]
  simpa using dec_syms bs k 0 []

theorem decode_rfc_stripped (bs : List UInt8) : decode (stripPad (rfc4648 bs)) = .ok bs := by
  obtain ⟨k, -, e⟩ := rfc_eq_syms bs
  have hs : stripPad (rfc4648 bs) = syms bs := by
    rw [e, stripPad, show (fun x : UInt8 => x == pad) = (· == 61) from rfl, (rev_pads _ k (syms_ne_pad bs)).2,
      List.reverse_reverse]
  rw [hs]
  simpa using decode_syms bs 0 (Nat.zero_le _)

theorem decLoop_ok_iff (s : List UInt8) (x vb : Int) (out : List UInt8) :
    (∃ o, decLoop s x vb out = .ok o) ↔ ∀ b ∈ beforePad s, inv b ≠ -1 := by
  induction s generalizing x vb out with
  | nil => exact ⟨fun _ b hb => absurd hb List.not_mem_nil, fun _ => ⟨_, rfl⟩⟩
  | cons c r ih =>
    rw [decLoop]
    by_cases hc : c = 61
    · subst hc
      exact ⟨fun _ b hb => absurd hb List.not_mem_nil, fun _ => ⟨_, rfl⟩⟩
    · have hb : beforePad (c :: r) = c :: beforePad r :=
        List.takeWhile_cons_of_pos (bne_iff_ne.mpr hc)
      rw [if_neg (mt beq_iff_eq.mp hc), hb, List.forall_mem_cons]
      by_cases hi : inv c = -1
      · rw [if_pos (beq_iff_eq.mpr hi)]
        exact ⟨fun ⟨_, h⟩ => (nomatch h), fun h => absurd hi h.1⟩
      · rw [if_neg (mt beq_iff_eq.mp hi), and_iff_right hi]
        dsimp only
        split <;> exact ih _ _ _

theorem decode_ok_iff (s : List UInt8) :
    (∃ o, decode s = .ok o) ↔ countPadding s ≤ s.length * 3 / 4 ∧ ∀ b ∈ beforePad s, inAlphabet b = true := by
  rw [decode, ← Nat.not_lt]
  by_cases h : s.length * 3 / 4 < countPadding s
  · rw [if_pos h]
    exact ⟨fun ⟨_, e⟩ => (nomatch e), fun hp => absurd h hp.1⟩
  · rw [if_neg h, decLoop_ok_iff, and_iff_right h]
    simp only [inv_ne_neg_one_iff]

theorem decode_encode (bs : List UInt8) : decode (encode bs) = .ok bs := by
  obtain ⟨k, hk, e⟩ := rfc_eq_syms bs
  rw [encode_eq, e, decode_syms bs k hk]

theorem encode_chars (d : List UInt8) : ∀ x ∈ encode d, x ≠ 10 ∧ x ≠ 13 := by
  obtain ⟨k, -, e⟩ := rfc_eq_syms d
  rw [encode_eq, e]
  intro x hx
  rcases List.mem_append.mp hx with hx | hx
  · exact (inAlphabet_ne x (syms_alpha d x hx)).2
  · rw [List.eq_of_mem_replicate hx]; decide

end PV.Lemmas.Base64

/-! Encoding a long text window by window, for C09's window theorems: the RFC text of an aligned prefix is a prefix of the RFC text. -/
namespace PV.Lemmas.Base64Window
open PV.Base64 PV.Spec.Base64 PV.Lemmas.Base64

theorem rfc4648_append (a b : List UInt8) (h : a.length % 3 = 0) :
    rfc4648 (a ++ b) = rfc4648 a ++ rfc4648 b := by
  fun_induction rfc4648 a with
  | case1 x y z r n ih =>
    simp only [List.cons_append, rfc4648, ih ((Nat.add_mod_right r.length 3).symm.trans h), n]
  | case2 | case3 => simp at h
  | case4 => rfl

theorem rfc4648_length (bs : List UInt8) : (rfc4648 bs).length = 4 * ((bs.length + 2) / 3) := by
  fun_induction rfc4648 bs with
  | case1 x y z r n ih =>
    show (rfc4648 r).length + 4 = 4 * ((r.length + 2 + 3) / 3)
    rw [ih, Nat.add_div_right _ (by decide), Nat.mul_add]
  | case2 | case3 | case4 => simp

theorem rfc4648_length_aligned (bs : List UInt8) (h : bs.length % 3 = 0) :
    (rfc4648 bs).length = 4 * (bs.length / 3) := by
  rw [rfc4648_length]; omega

theorem encode_length (bs : List UInt8) : (encode bs).length = 4 * ((bs.length + 2) / 3) := by
  rw [encode_eq, rfc4648_length]

theorem encode_tail (pre last : List UInt8) (hp : pre.length % 3 = 0) :
    (encode (pre ++ last)).drop (4 * (pre.length / 3)) = encode last := by
  rw [encode_eq, encode_eq, rfc4648_append pre _ hp, List.drop_left' (rfc4648_length_aligned pre hp)]

theorem encode_window (pre mid post : List UInt8) (hp : pre.length % 3 = 0) (hm : mid.length % 3 = 0) :
    ((encode (pre ++ mid ++ post)).drop (4 * (pre.length / 3))).take (4 * (mid.length / 3)) = encode mid := by
  rw [List.append_assoc, encode_tail pre _ hp, encode_eq, encode_eq, rfc4648_append mid _ hm,
    List.take_left' (rfc4648_length_aligned mid hm)]

end PV.Lemmas.Base64Window
