import PV.Model.Reader
import PV.Model.ReaderFallback
import PV.Lemmas.Records
import PV.Lemmas.Basic
/-! `readLine` / `readAll` are proved correct once, for any backing with a stream view (`View`: an invariant, the
bytes still to come behind the window, a measure) that `Shift()` and `position_` moves respect (`Sys`).  Read mode,
mmap mode and the mmap → read fallback are each shown to have one. -/
namespace PV.Lemmas.Reader
open PV.Reader PV.Spec.Records

variable {σ : Type}

/-- the unread part of the window, `[position_, position_end_)`. -/
def unread (B : Backing σ) (s : σ) : List UInt8 := (B.buf s).drop (B.pos s)

/-- `skip` may exceed `u.length`: `std::find` then finds nothing. -/
theorem readLine_eval (B : Backing σ) (delim : UInt8) (stripCr : Bool) (fuel skip : Nat) (s : σ)
    (hpos : B.pos s ≤ (B.buf s).length) (hno : ∀ b ∈ (unread B s).take skip, b ≠ delim) :
    readLine B delim stripCr (fuel+1) skip s =
      (let u := unread B s
       let k := (u.takeWhile (· != delim)).length
       if k < u.length then .line (stripOneCr stripCr (u.take k)) (B.setPos s (B.pos s + (k + 1)))
       else if B.atEnd s then
         if B.pos s == (B.buf s).length then .eof s else .line u (B.setPos s (B.pos s + u.length))
       else readLine B delim stripCr fuel u.length (B.shift s)) := by
  -- the search that starts `skip` bytes in stops where the search from the start of `u` stops
  have hk := congrArg List.length (List.takeWhile_append_of_pos (p := (· != delim)) (l₂ := (unread B s).drop skip)
    fun b hb => bne_iff_ne.mpr (hno b hb))
  rw [List.take_append_drop, List.length_append, List.length_take,
    show (unread B s).drop skip = (B.buf s).drop (B.pos s + skip) from List.drop_drop] at hk
  rw [readLine]
  dsimp only
  generalize ((B.buf s).drop (B.pos s + skip)).takeWhile (· != delim) = t at hk ⊢
  rw [Nat.add_assoc]
  by_cases hlt : ((unread B s).takeWhile (· != delim)).length < (unread B s).length
  · -- `skip ≤ u.length` here: were it larger, `hk` would put the stop at or behind the end of `u`, against `hlt`
    have hi : skip + t.length = ((unread B s).takeWhile (· != delim)).length := by omega
    have hn := Nat.add_lt_of_lt_sub' (List.length_drop ▸ hlt)
    rw [if_pos hlt, hi, if_pos hn, ← Records.stripOneCr_take _ _ _ _ (Nat.le_of_lt hn), unread, List.take_drop]
    rfl
  · have hge : (unread B s).length ≤ skip + t.length :=
      Nat.le_trans (Nat.le_of_not_lt hlt) (hk ▸ Nat.add_le_add_right (Nat.min_le_left ..) _)
    rw [if_neg hlt, if_neg (Nat.not_lt.mpr (Nat.sub_le_iff_le_add'.mp (List.length_drop ▸ hge))), unread,
      List.length_drop, Nat.add_sub_cancel' hpos]

/-- Stream view of a backing: behind the unread window lie the bytes `fut s` that the source has not delivered
    yet; `mu` bounds how often `Shift()` can still be called before the source is exhausted. -/
structure View (B : Backing σ) where
  Inv : σ → Prop
  fut : σ → List UInt8
  mu : σ → Nat

/-- the stream: what `ReadLine` has still to hand out. -/
def View.rest {B : Backing σ} (V : View B) (s : σ) : List UInt8 := unread B s ++ V.fut s

/-- `Shift()` moves bytes from `fut` into the window and nothing else, and decreases `mu`; moving `position_`
    inside the window touches neither. -/
structure Sys (B : Backing σ) (V : View B) : Prop where
  pos_le : ∀ {s}, V.Inv s → B.pos s ≤ (B.buf s).length
  atEnd_fut : ∀ {s}, V.Inv s → B.atEnd s = true → V.fut s = []
  shift_spec : ∀ {s}, V.Inv s → B.atEnd s = false →
    V.Inv (B.shift s) ∧ V.rest (B.shift s) = V.rest s ∧ V.mu (B.shift s) < V.mu s
  setPos_spec : ∀ {s} k, V.Inv s → k ≤ (unread B s).length →
    V.Inv (B.setPos s (B.pos s + k)) ∧ B.buf (B.setPos s (B.pos s + k)) = B.buf s ∧
    B.pos (B.setPos s (B.pos s + k)) = B.pos s + k ∧
    V.fut (B.setPos s (B.pos s + k)) = V.fut s ∧ V.mu (B.setPos s (B.pos s + k)) = V.mu s

variable {B : Backing σ}

theorem Sys.advance {V : View B} (S : Sys B V) {s : σ} (k : Nat) (hI : V.Inv s)
    (hk : k ≤ (unread B s).length) :
    V.Inv (B.setPos s (B.pos s + k)) ∧ V.mu (B.setPos s (B.pos s + k)) = V.mu s ∧
    V.rest (B.setPos s (B.pos s + k)) = (V.rest s).drop k := by
  obtain ⟨hi, hb, hp, hf, hm⟩ := S.setPos_spec k hI hk
  refine ⟨hi, hm, ?_⟩
  rw [View.rest, View.rest, unread, hb, hp, hf, List.drop_append_of_le_length hk, unread, List.drop_drop]

/-- What one `readLine` call on the stream `r` guarantees, by result: a record is the first record of `r` and the
    stream that is left is shorter; end of input is reported on the empty stream only, with the two facts
    `eof_stable` needs.  `n` is there for `V.mu s' ≤ n`: the shift fuel of one call is enough for the next. -/
def Post (V : View B) (delim : UInt8) (stripCr : Bool) (r : List UInt8) (n : Nat) :
    LineRes σ → Prop
  | .diverged => False
  | .eof s' => r = [] ∧ B.atEnd s' = true ∧ B.pos s' = (B.buf s').length
  | .line l s' => V.Inv s' ∧ V.mu s' ≤ n ∧
      splitRecords delim stripCr r = l :: splitRecords delim stripCr (V.rest s') ∧ (V.rest s').length < r.length

/-- The loop invariant of `ReadLine` is on the stream, not the window: its first `skip` bytes hold no delimiter.
    (At the mmap → read transition the new window may be shorter than `skip`.) -/
theorem readLine_post {V : View B} (S : Sys B V) (delim : UInt8) (stripCr : Bool) (n : Nat) :
    ∀ (fuel skip : Nat) (s : σ), V.Inv s → (∀ b ∈ (V.rest s).take skip, b ≠ delim) → V.mu s < fuel → V.mu s ≤ n →
      Post V delim stripCr (V.rest s) n (readLine B delim stripCr fuel skip s) := by
  intro fuel
  induction fuel with
  | zero => intro skip s _ _ h; exact absurd h (Nat.not_lt_zero _)
  | succ fuel ih =>
    intro skip s hI hno hmu hn
    have hpos := S.pos_le hI
    rw [readLine_eval B delim stripCr fuel skip s hpos fun b hb =>
      hno b (by rw [View.rest, List.take_append]; exact List.mem_append_left _ hb)]
    dsimp only
    have hr : V.rest s = unread B s ++ V.fut s := rfl
    have hadv := fun k => S.advance (s := s) k hI
    generalize hu : unread B s = u at hr hadv
    by_cases hm : delim ∈ u
    · obtain ⟨w, r, rfl, hw⟩ := List.eq_append_cons_of_mem hm
      rw [(takeWhile_append_cons r (bne_of_not_mem hw) (bne_self_eq_false delim)).1]
      have hlt : w.length < (w ++ delim :: r).length := by
        rw [List.length_append]; exact Nat.lt_add_of_pos_right (Nat.succ_pos _)
      obtain ⟨s1, s2, s3⟩ := hadv (w.length + 1) hlt
      rw [hr, List.append_assoc, List.cons_append, List.append_cons,
        List.drop_left' (i := w.length + 1) List.length_append] at s3
      rw [if_pos hlt, List.take_left' rfl]
      refine ⟨s1, s2 ▸ hn, ?_, ?_⟩
      · rw [s3, hr, List.append_assoc, List.cons_append]
        exact Records.splitRecords_delim delim stripCr _ _ hw
      · rw [s3, hr, List.length_append, List.length_append, List.length_append]
        exact Nat.add_lt_add_right (Nat.lt_of_lt_of_le (Nat.lt_succ_self _) (Nat.le_add_left ..)) _
    · rw [takeWhile_of_forall (bne_of_not_mem hm), if_neg (Nat.lt_irrefl _)]
      cases hE : B.atEnd s
      · obtain ⟨h1, h2, h3⟩ := S.shift_spec hI hE
        rw [if_neg Bool.false_ne_true, ← h2]
        refine ih _ _ h1 ?_ (Nat.lt_of_lt_of_le h3 (Nat.le_of_lt_succ hmu)) (Nat.le_trans (Nat.le_of_lt h3) hn)
        rw [h2, hr, List.take_left' rfl]
        exact fun b hb => ne_of_mem_of_not_mem hb hm
      · have hru : V.rest s = u := by rw [hr, S.atEnd_fut hI hE, List.append_nil]
        rw [if_pos rfl, hru]
        by_cases hp : B.pos s = (B.buf s).length
        · rw [if_pos (beq_iff_eq.mpr hp)]
          exact ⟨hu ▸ List.drop_eq_nil_of_le (Nat.le_of_eq hp.symm), hE, hp⟩
        · rw [if_neg (mt beq_iff_eq.mp hp)]
          have hu0 : u ≠ [] := fun h => hp (Nat.le_antisymm hpos (List.drop_eq_nil_iff.mp (hu.trans h)))
          obtain ⟨s1, s2, s3⟩ := hadv u.length (Nat.le_refl _)
          rw [hru, List.drop_length] at s3
          refine ⟨s1, s2 ▸ hn, ?_, ?_⟩
          · rw [s3, Records.splitRecords_nil]
            exact Records.splitRecords_nodelim delim stripCr u hm hu0
          · rw [s3]
            exact List.length_pos_iff.mpr hu0

theorem readAll_post {V : View B} (S : Sys B V) (delim : UInt8) (stripCr : Bool) (shiftFuel : Nat) :
    ∀ (fuel : Nat) (s : σ) (src : List UInt8), V.Inv s → V.rest s = src → V.mu s < shiftFuel → src.length < fuel →
      ∃ s', readAll B delim stripCr shiftFuel fuel s = some (splitRecords delim stripCr src, s') ∧
        B.atEnd s' = true ∧ B.pos s' = (B.buf s').length := by
  intro fuel
  induction fuel with
  | zero => intro s _ _ _ _ h; exact absurd h (Nat.not_lt_zero _)
  | succ fuel ih =>
    intro s src hI hs hmu hlen
    subst hs
    have hp := readLine_post S delim stripCr (V.mu s) shiftFuel 0 s hI (fun _ h => by simp at h) hmu (Nat.le_refl _)
    rw [readAll]
    cases hr : readLine B delim stripCr shiftFuel 0 s with
    | diverged => rw [hr] at hp; exact hp.elim
    | eof t =>
      rw [hr] at hp
      obtain ⟨h1, h2, h3⟩ := hp
      exact ⟨t, by simp [h1, Records.splitRecords_nil], h2, h3⟩
    | line l t =>
      rw [hr] at hp
      obtain ⟨h1, h2, h3, h4⟩ := hp
      obtain ⟨s', e1, e2⟩ := ih t _ h1 rfl (Nat.lt_of_le_of_lt h2 hmu) (Nat.lt_of_lt_of_le h4 (Nat.le_of_lt_succ hlen))
      exact ⟨s', by simp [e1, h3], e2⟩

theorem eof_stable (B : Backing σ) (delim : UInt8) (stripCr : Bool) (s : σ)
    (hE : B.atEnd s = true) (hp : B.pos s = (B.buf s).length) :
    ∀ fuel, 0 < fuel → ∃ s', readLine B delim stripCr fuel 0 s = .eof s'
  | fuel + 1, _ => ⟨s, by rw [readLine]; simp [hp, hE]⟩

theorem osRead_split (amount : Nat) (src : List UInt8) (sched : List Nat) (h : 0 < amount) :
    ∃ got rest sched', osRead amount src sched = (got, rest, sched') ∧ got ++ rest = src ∧
      got.length ≤ amount ∧ (got = [] → src = []) := by
  obtain ⟨w, ⟨h0, hle⟩, e⟩ : ∃ w, (0 < w ∧ w ≤ amount) ∧
      osRead amount src sched = (src.take w, src.drop w, sched.tail) := by
    cases sched with
    | nil => exact ⟨amount, ⟨h, Nat.le_refl _⟩, rfl⟩
    | cons n _ => exact ⟨max 1 (min n amount), by omega, rfl⟩
  exact ⟨_, _, _, e, List.take_append_drop .., Nat.le_trans (List.length_take_le ..) hle,
    fun hn => (List.take_eq_nil_iff.mp hn).resolve_left (Nat.ne_of_gt h0)⟩

/-- the state after `ReadShift`, given the buffer after its reset / memmove / doubling step. -/
def afterRead (buf : List UInt8) (pos cap : Nat) (s : RState) : RState :=
  let (got, src, sched) := osRead (cap - buf.length) s.src s.sched
  { buf := buf ++ got, pos := pos, cap := cap, atEnd := got.isEmpty, src := src, sched := sched }

structure RInv (s : RState) : Prop where
  pos_le : s.pos ≤ s.buf.length
  len_le : s.buf.length ≤ s.cap
  cap_pos : 0 < s.cap
  atEnd : s.atEnd = true → s.src = []

/-- Read mode: behind the buffer lies `src`, and every `read()` that returns data shortens it. -/
def readView : View readBacking where
  Inv := RInv
  fut := (·.src)
  mu := fun s => if s.atEnd then 0 else s.src.length + 1  -- `+ 1`: the `read()` that finds the source empty

/-- `ReadShift` first makes room (reset / double / memmove, or nothing), keeping the unread bytes, then reads. -/
theorem readShift_cases (s : RState) (hI : RInv s) :
    ∃ buf pos cap, readShift s = afterRead buf pos cap s ∧ buf.drop pos = s.buf.drop s.pos ∧
      pos ≤ buf.length ∧ buf.length < cap := by
  obtain ⟨h1, h2, h3, _⟩ := hI
  by_cases hp : s.pos = s.buf.length
  · refine ⟨[], 0, s.cap, ?_, by rw [hp, List.drop_length, List.drop_nil], Nat.le_refl _, h3⟩
    simp only [readShift, hp, BEq.rfl, ↓reduceIte, List.length_nil, beq_iff_eq, Nat.ne_of_lt h3, afterRead]
  · by_cases hc : s.buf.length = s.cap
    · by_cases h0 : s.pos = 0
      · refine ⟨s.buf, 0, s.cap * 2, ?_, by rw [h0], Nat.zero_le _,
          by rw [hc, Nat.mul_two]; exact Nat.lt_add_of_pos_right h3⟩
        simp only [readShift, h0, hc, beq_iff_eq, Nat.ne_of_lt h3, ↓reduceIte, BEq.rfl, afterRead]
      · refine ⟨s.buf.drop s.pos, 0, s.cap, ?_, rfl, Nat.zero_le _,
          by rw [List.length_drop, hc]; exact Nat.sub_lt h3 (Nat.pos_of_ne_zero h0)⟩
        simp only [readShift, hc, beq_iff_eq, hc ▸ hp, ↓reduceIte, BEq.rfl, h0, afterRead]
    · refine ⟨s.buf, s.pos, s.cap, ?_, rfl, h1, Nat.lt_of_le_of_ne h2 hc⟩
      simp only [readShift, beq_iff_eq, hp, ↓reduceIte, hc, afterRead]

-- From here on `readShift` is used through `readShift_cases` only.  Sealed, it stays closed when the unifier meets two
-- spellings of a field of the new state (`(readShift s).pos`, `readBacking.pos (readBacking.shift s)`).
attribute [local irreducible] readShift

theorem readShift_sys (s : RState) (hI : RInv s) (hE : s.atEnd = false) :
    RInv (readShift s) ∧ readView.rest (readShift s) = readView.rest s ∧
    readView.mu (readShift s) < readView.mu s := by
  obtain ⟨buf, pos, cap, e, hd, hp, hc⟩ := readShift_cases s hI
  obtain ⟨got, rest, sched', eo, hs, hlen, hnil⟩ :=
    osRead_split (cap - buf.length) s.src s.sched (Nat.sub_pos_of_lt hc)
  rw [e, afterRead, eo]
  refine ⟨⟨?_, ?_, Nat.zero_lt_of_lt hc, fun h => ?_⟩, ?_, ?_⟩
  · exact Nat.le_trans hp (List.length_append ▸ Nat.le_add_right _ _)
  · show (buf ++ got).length ≤ cap
    rw [List.length_append]
    omega
  · show rest = []
    exact (List.append_eq_nil_iff.mp (hs.trans (hnil (List.isEmpty_iff.mp h)))).2
  · show (buf ++ got).drop pos ++ rest = s.buf.drop s.pos ++ s.src
    rw [List.drop_append_of_le_length hp, List.append_assoc, hs, hd]
  · dsimp only [readView]
    rw [hE, if_neg Bool.false_ne_true, ← hs, List.length_append]
    split
    · exact Nat.succ_pos _
    · next h =>
      have := List.length_pos_iff.mpr (mt List.isEmpty_iff.mpr h)
      omega

theorem readSys : Sys readBacking readView where
  pos_le := RInv.pos_le
  atEnd_fut := RInv.atEnd
  shift_spec := fun {s} h hE => readShift_sys s h hE
  setPos_spec := fun _ h hk =>
    ⟨{ h with pos_le := Nat.add_le_of_le_sub' h.pos_le (List.length_drop ▸ hk) }, rfl, rfl, rfl, rfl⟩

theorem initRead_facts (cap0 : Nat) (hcap : 0 < cap0) (src : List UInt8) (sched : List Nat) :
    RInv (initRead cap0 src sched) ∧ readView.rest (initRead cap0 src sched) = src ∧
    readView.mu (initRead cap0 src sched) < src.length + 1 :=
  readSys.shift_spec (s := ⟨[], 0, cap0, false, src, sched⟩)
    ⟨Nat.le_refl _, Nat.zero_le _, hcap, fun h => Bool.noConfusion h⟩ rfl

theorem readAll_read (delim : UInt8) (stripCr : Bool) (cap0 : Nat) (hcap : 0 < cap0)
    (src : List UInt8) (sched : List Nat) :
    ∃ s', readAll readBacking delim stripCr (src.length + 2) (src.length + 2) (initRead cap0 src sched)
        = some (splitRecords delim stripCr src, s') ∧
      s'.atEnd = true ∧ s'.pos = s'.buf.length := by
  obtain ⟨h1, h2, h3⟩ := initRead_facts cap0 hcap src sched
  exact readAll_post readSys delim stripCr _ _ _ src h1 h2 (Nat.lt_succ_of_lt h3) (Nat.lt_add_of_pos_right (by decide))

structure MInv (s : MState) : Prop where
  mapped : s.mapped = true
  page_pos : 0 < s.page
  off_dvd : s.page ∣ s.mappedOff
  cap_dvd : s.page ∣ s.cap
  cap_pos : 0 < s.cap
  pos_le : s.pos ≤ s.winLen
  win_le : s.mappedOff + s.winLen ≤ s.file.length
  atEnd : s.atEnd = true → s.mappedOff + s.winLen = s.file.length
  notEnd : s.atEnd = false → s.winLen = s.cap ∧ s.mappedOff + s.cap < s.file.length

theorem window_length (s : MState) (h : s.mappedOff + s.winLen ≤ s.file.length) : s.window.length = s.winLen := by
  rw [MState.window, List.length_take, List.length_drop]
  exact Nat.min_eq_left (Nat.le_sub_of_add_le' h)

/-- mmap mode: behind the window lies the rest of the file; a shift either reaches its end or moves or widens the window. -/
def mmapView : View mmapBacking where
  Inv := MInv
  fut := fun s => s.file.drop (s.mappedOff + s.winLen)
  mu := fun s => if s.atEnd then 0 else s.file.length - (s.mappedOff + s.winLen) + 1

theorem mmapView_rest (s : MState) (h : s.pos ≤ s.winLen) : mmapView.rest s = s.file.drop (s.mappedOff + s.pos) := by
  show s.window.drop s.pos ++ s.file.drop (s.mappedOff + s.winLen) = _
  rw [MState.window, List.drop_take, ← List.drop_drop, ← List.drop_drop]
  generalize s.file.drop s.mappedOff = l
  rw [show l.drop s.winLen = (l.drop s.pos).drop (s.winLen - s.pos) by rw [List.drop_drop, Nat.add_sub_cancel' h]]
  exact List.take_append_drop _ _

/-- Stated without `MInv s`, since the first `MMapShift` starts from the unaligned start offset with nothing mapped. -/
theorem mmapShift_spec (s : MState) (hE : s.atEnd = false) (hp : 0 < s.page)
    (hle : s.mappedOff + s.pos ≤ s.file.length) (hd : s.page ∣ s.cap) (hc : 0 < s.cap) :
    MInv (mmapShift s) ∧ mmapView.rest (mmapShift s) = s.file.drop (s.mappedOff + s.pos) := by
  have hr := Nat.mod_lt (s.pos + s.mappedOff) hp
  have hsum := Nat.sub_add_cancel (Nat.mod_le (s.pos + s.mappedOff) s.page)
  have hdv : s.page ∣ s.pos + s.mappedOff - (s.pos + s.mappedOff) % s.page := Nat.dvd_sub_mod _
  suffices hI : MInv (mmapShift s) from
    ⟨hI, (mmapView_rest _ hI.pos_le).trans (congrArg s.file.drop (hsum.trans (Nat.add_comm _ _)))⟩
  unfold mmapShift
  dsimp only
  generalize hcap : (if s.mapped && s.pos == (s.pos + s.mappedOff) % s.page then s.cap * 2 else s.cap) = cap'
  obtain ⟨hd, hc⟩ : s.page ∣ cap' ∧ 0 < cap' := by
    rw [← hcap]
    split
    · exact ⟨Nat.dvd_mul_right_of_dvd hd 2, Nat.mul_pos hc (by decide)⟩
    · exact ⟨hd, hc⟩
  generalize (s.pos + s.mappedOff) % s.page = r at *
  generalize s.pos + s.mappedOff - r = mo at *
  have hmr : mo + r ≤ s.file.length := hsum ▸ Nat.add_comm _ _ ▸ hle
  have hmt : mo ≤ s.file.length := Nat.le_trans (Nat.le_add_right _ _) hmr
  by_cases h : cap' ≥ s.file.length - mo
  · rw [if_pos h]
    exact {
      mapped := rfl, page_pos := hp, off_dvd := hdv, cap_dvd := hd, cap_pos := hc,
      pos_le := Nat.le_sub_of_add_le' hmr, win_le := Nat.le_of_eq (Nat.add_sub_cancel' hmt),
      atEnd := fun _ => Nat.add_sub_cancel' hmt, notEnd := fun h => Bool.noConfusion h }
  · rw [if_neg h]
    have hlt : mo + cap' < s.file.length := Nat.add_lt_of_lt_sub' (Nat.lt_of_not_le h)
    exact {
      mapped := rfl, page_pos := hp, off_dvd := hdv, cap_dvd := hd, cap_pos := hc,
      pos_le := Nat.le_trans (Nat.le_of_lt hr) (Nat.le_of_dvd hc hd), win_le := Nat.le_of_lt hlt,
      atEnd := fun h => Bool.noConfusion (hE.symm.trans h), notEnd := fun _ => ⟨rfl, hlt⟩ }

/-- `position_` rounds down to a page boundary at or after the old window's start: either that is the start itself
    and the capacity doubles, or the window moves forward. -/
theorem mmapShift_grows (s : MState) (hI : MInv s) :
    s.mappedOff + s.cap < (mmapShift s).mappedOff + (mmapShift s).cap := by
  have hr : (s.pos + s.mappedOff) % s.page ≤ s.pos := by
    obtain ⟨q, hq⟩ := hI.off_dvd
    rw [hq, Nat.add_mul_mod_self_left]
    exact Nat.mod_le _ _
  show _ < s.pos + s.mappedOff - (s.pos + s.mappedOff) % s.page +
    if s.mapped && s.pos == (s.pos + s.mappedOff) % s.page then s.cap * 2 else s.cap
  rw [hI.mapped, Bool.true_and]
  generalize (s.pos + s.mappedOff) % s.page = r at hr ⊢
  have := hI.cap_pos
  split
  · omega
  · next hq =>
    have := mt beq_iff_eq.mpr hq
    omega

theorem mmapShift_sys (s : MState) (hI : MInv s) (hE : s.atEnd = false) :
    MInv (mmapShift s) ∧ mmapView.rest (mmapShift s) = mmapView.rest s ∧
    mmapView.mu (mmapShift s) < mmapView.mu s := by
  obtain ⟨hw, hl⟩ := hI.notEnd hE
  obtain ⟨hI', hrest⟩ := mmapShift_spec s hE hI.page_pos (Nat.le_trans (Nat.add_le_add_left hI.pos_le _) hI.win_le)
    hI.cap_dvd hI.cap_pos
  refine ⟨hI', hrest.trans (mmapView_rest s hI.pos_le).symm, ?_⟩
  dsimp only [mmapView]
  rw [hE, if_neg Bool.false_ne_true]
  split
  · exact Nat.succ_pos _
  · next h =>
    rw [hw, (hI'.notEnd (Bool.eq_false_iff.mpr h)).1]
    exact Nat.succ_lt_succ (Nat.sub_lt_sub_left hl (mmapShift_grows s hI))

theorem initMmap_facts (file : List UInt8) (page cap0 start : Nat)
    (hpage : 0 < page) (hcap : 0 < cap0) (hdvd : page ∣ cap0) (hstart : start ≤ file.length) :
    MInv (initMmap file page cap0 start) ∧ mmapView.rest (initMmap file page cap0 start) = file.drop start ∧
    mmapView.mu (initMmap file page cap0 start) < file.length + 2 := by
  obtain ⟨hI, hrest⟩ := mmapShift_spec ⟨file, page, cap0, start, 0, 0, false, false⟩ rfl hpage hstart hdvd hcap
  refine ⟨hI, hrest, ?_⟩
  dsimp only [mmapView]
  split
  · exact Nat.succ_pos _
  · exact Nat.succ_lt_succ (Nat.lt_succ_of_le (Nat.sub_le _ _))

theorem mmapShift_file (s : MState) : (mmapShift s).file = s.file := rfl

-- as for `readShift`
attribute [local irreducible] mmapShift

theorem mmapSys : Sys mmapBacking mmapView where
  pos_le := fun {s} h => (window_length s h.win_le).symm ▸ h.pos_le
  atEnd_fut := fun h hE => List.drop_eq_nil_of_le (Nat.le_of_eq (h.atEnd hE).symm)
  shift_spec := fun {s} h hE => mmapShift_sys s h hE
  setPos_spec := fun {s} k h hk => by
    have hk : k ≤ s.window.length - s.pos := List.length_drop ▸ hk
    rw [window_length s h.win_le] at hk
    exact ⟨{ h with pos_le := Nat.add_le_of_le_sub' h.pos_le hk }, rfl, rfl, rfl, rfl⟩

theorem readAll_mmap (delim : UInt8) (stripCr : Bool) (file : List UInt8) (page cap0 start : Nat)
    (hpage : 0 < page) (hcap : 0 < cap0) (hdvd : page ∣ cap0) (hstart : start ≤ file.length) :
    ∃ s', readAll mmapBacking delim stripCr (file.length + 2) (file.length + 2) (initMmap file page cap0 start)
        = some (splitRecords delim stripCr (file.drop start), s') ∧
      s'.atEnd = true ∧ s'.pos = s'.window.length := by
  obtain ⟨h1, h2, h3⟩ := initMmap_facts file page cap0 start hpage hcap hdvd hstart
  exact readAll_post mmapSys delim stripCr _ _ _ _ h1 h2 h3
    (Nat.lt_succ_of_le (Nat.le_succ_of_le (List.length_drop ▸ Nat.sub_le _ _)))

theorem transition_facts (file : List UInt8) (d cap : Nat) (hcap : 0 < cap) (sched : List Nat) :
    RInv (initRead cap (file.drop d) sched) ∧ readView.rest (initRead cap (file.drop d) sched) = file.drop d ∧
    readView.mu (initRead cap (file.drop d) sched) < file.length + 2 := by
  obtain ⟨h1, h2, h3⟩ := initRead_facts cap hcap (file.drop d) sched
  exact ⟨h1, h2, Nat.lt_succ_of_lt (Nat.lt_of_lt_of_le h3 (Nat.succ_le_succ (List.length_drop ▸ Nat.sub_le _ _)))⟩

/-- The fallback: the mmap view until the transition, the read view after it.  mmap shifts decrease `mmapView.mu`,
    the transition lands in a read state with `readView.mu < file.length + 2`, read shifts decrease that. -/
def fallbackView : View fallbackBacking where
  Inv
    | .m s _ _ => MInv s
    | .r s => RInv s
  fut
    | .m s _ _ => mmapView.fut s
    | .r s => readView.fut s
  mu
    | .m s _ _ => mmapView.mu s + s.file.length + 2
    | .r s => readView.mu s

/-- At the transition the new buffer restarts at the first unconsumed byte and holds only what the first `read`
    returned: the window may shrink, the stream it stands for does not change. -/
theorem fallbackSys : Sys fallbackBacking fallbackView where
  pos_le := fun {s} h => by
    cases s with
    | m s k sc => exact mmapSys.pos_le h
    | r s => exact h.pos_le
  atEnd_fut := fun {s} h hE => by
    cases s with
    | m s k sc => exact mmapSys.atEnd_fut h hE
    | r s => exact h.atEnd hE
  shift_spec := fun {s} h hE => by
    cases s with
    | r s => exact readShift_sys s h hE
    | m s k sc =>
      cases k with
      | succ k =>
        obtain ⟨h1, h2, h3⟩ := mmapShift_sys s h hE
        refine ⟨h1, h2, ?_⟩
        show mmapView.mu (mmapShift s) + (mmapShift s).file.length + 2 < mmapView.mu s + s.file.length + 2
        rw [mmapShift_file]
        exact Nat.add_lt_add_right (Nat.add_lt_add_right h3 _) _
      | zero =>
        have h : MInv s := h
        obtain ⟨h1, h2, h3⟩ := transition_facts s.file (s.pos + s.mappedOff)
          (if s.mapped && s.pos == (s.pos + s.mappedOff) % s.page then s.cap * 2 else s.cap)
          (by split; exact Nat.mul_pos h.cap_pos (by decide); exact h.cap_pos) sc
        refine ⟨h1, h2.trans ?_, Nat.lt_of_lt_of_le h3 (Nat.le_add_left _ _)⟩
        rw [Nat.add_comm]
        exact (mmapView_rest s h.pos_le).symm
  setPos_spec := fun {s} k h hk => by
    cases s with
    | m s j sc =>
      obtain ⟨a1, a2, a3, a4, _⟩ := mmapSys.setPos_spec k h hk
      exact ⟨a1, a2, a3, a4, rfl⟩
    | r s => exact readSys.setPos_spec k h hk

theorem readAll_fallback (delim : UInt8) (stripCr : Bool) (file : List UInt8) (page cap0 start mapsLeft : Nat)
    (sched : List Nat) (hpage : 0 < page) (hcap : 0 < cap0) (hdvd : page ∣ cap0) (hstart : start ≤ file.length) :
    ∃ s', readAll fallbackBacking delim stripCr (2 * (file.length + 2)) (file.length + 2)
          (initFallback file page cap0 start mapsLeft sched)
        = some (splitRecords delim stripCr (file.drop start), s') ∧
      s'.atEnd = true ∧ s'.pos = s'.buf.length := by
  obtain ⟨h1, h2, h3⟩ : fallbackView.Inv (initFallback file page cap0 start mapsLeft sched) ∧
      fallbackView.rest (initFallback file page cap0 start mapsLeft sched) = file.drop start ∧
      fallbackView.mu (initFallback file page cap0 start mapsLeft sched) < 2 * (file.length + 2) := by
    cases mapsLeft with
    | succ k =>
      obtain ⟨h1, h2, h3⟩ := initMmap_facts file page cap0 start hpage hcap hdvd hstart
      refine ⟨h1, h2, ?_⟩
      show mmapView.mu (initMmap file page cap0 start) + (initMmap file page cap0 start).file.length + 2 < _
      rw [show (initMmap file page cap0 start).file = file from mmapShift_file _]
      omega
    | zero =>
      obtain ⟨h1, h2, h3⟩ := transition_facts file (0 + start) cap0 hcap sched
      exact ⟨h1, h2.trans (by rw [Nat.zero_add]), Nat.lt_of_lt_of_le h3 (Nat.le_mul_of_pos_left _ (by decide))⟩
  exact readAll_post fallbackSys delim stripCr _ _ _ _ h1 h2 h3
    (Nat.lt_succ_of_le (Nat.le_succ_of_le (List.length_drop ▸ Nat.sub_le _ _)))

end PV.Lemmas.Reader
