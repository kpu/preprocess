import PV.Model.Warc
import PV.Lemmas.Reader
import PV.Lemmas.Basic
/-
The fuelled reader of `PV.Warc`, which sees its input in chunks of the adversary's choosing, is shown
equal to functions of the unread bytes alone: `specLine0` (a line), `hdrSpec` (the header block),
`readSpec` (a record), `parse` (the stream); `records_eq`.  What C17 states is then proved of `parse`:
tiling and record shape for every input; for the inputs C17 writes down `readSpec` is evaluated, on header
blocks `mkH` made of lines the header loop steps over (`Passes`) and a Content-Length line (`IsKey`, `IsDec`).
-/
namespace PV.Lemmas.Warc
open PV.Warc PV.Reader PV.Lemmas.Reader

theorem takeWhile_append_of_neg {α : Type} (p : α → Bool) (B : List α) (c : α) (Q : List α)
    (hc : p c = false) : (B ++ c :: Q).takeWhile p = B.takeWhile p := by
  induction B with
  | nil => simp [hc]
  | cons b B ih => simp only [List.cons_append, List.takeWhile_cons, ih]

theorem forall_or_first_not {α : Type} (p : α → Bool) (A : List α) :
    (∀ a ∈ A, p a = true) ∨ ∃ S x B, A = S ++ x :: B ∧ (∀ a ∈ S, p a = true) ∧ p x = false := by
  induction A with
  | nil => exact .inl nofun
  | cons a A ih =>
    cases ha : p a with
    | false => exact .inr ⟨[], a, A, rfl, nofun, ha⟩
    | true =>
      rcases ih with h | ⟨S, x, B, rfl, hS, hx⟩
      · exact .inl (List.forall_mem_cons.mpr ⟨ha, h⟩)
      · exact .inr ⟨a :: S, x, B, rfl, List.forall_mem_cons.mpr ⟨ha, hS⟩, hx⟩

/-- line splitter on a list that starts at the read position: (line without CR, bytes used). -/
def specLine0 (D : List UInt8) : Option (List UInt8 × Nat) :=
  let n := (D.takeWhile (· != 10)).length
  if n < D.length then
    let raw := D.take n
    some (if raw.getLast? == some 13 then raw.dropLast else raw, n + 1)
  else none

theorem specLine0_lf (l tail : List UInt8) (h : (10 : UInt8) ∉ l) :
    specLine0 (l ++ 10 :: tail) =
      some (if l.getLast? == some 13 then l.dropLast else l, l.length + 1) := by
  unfold specLine0
  simp only [(takeWhile_append_cons tail (bne_of_not_mem h) (bne_self_eq_false 10)).1]
  rw [if_pos (by simp), List.take_left]

theorem specLine0_none (D : List UInt8) (h : (10 : UInt8) ∉ D) : specLine0 D = none := by
  unfold specLine0
  simp [takeWhile_of_forall (bne_of_not_mem h)]

/-- `HeaderReader::Line` drops one CR at the end of the line. -/
theorem stripCr_cases (raw : List UInt8) :
    raw = (if raw.getLast? == some 13 then raw.dropLast else raw) ∨
    raw = (if raw.getLast? == some 13 then raw.dropLast else raw) ++ [13] := by
  split
  · rename_i hl
    obtain ⟨ys, rfl⟩ := List.getLast?_eq_some_iff.mp (beq_iff_eq.mp hl)
    exact .inr (by rw [List.dropLast_concat])
  · exact .inl rfl

theorem specLine0_some {D l : List UInt8} {n1 : Nat} (h : specLine0 D = some (l, n1)) :
    ∃ raw tail, D = raw ++ 10 :: tail ∧ (10 : UInt8) ∉ raw ∧ (raw = l ∨ raw = l ++ [13]) ∧
      n1 = raw.length + 1 := by
  rcases Classical.em ((10 : UInt8) ∈ D) with h10 | h10
  · obtain ⟨raw, tail, rfl, hraw⟩ := List.eq_append_cons_of_mem h10
    rw [specLine0_lf raw tail hraw] at h
    injection h with h
    injection h with h1 h2
    exact ⟨raw, tail, rfl, hraw, h1 ▸ stripCr_cases raw, h2.symm⟩
  · rw [specLine0_none D h10] at h
    cases h

theorem specLine0_crlf (l tail : List UInt8) (h : (10 : UInt8) ∉ l) :
    specLine0 (l ++ 13 :: 10 :: tail) = some (l, l.length + 2) := by
  rw [List.append_cons, specLine0_lf _ _ (by simpa using h), List.getLast?_concat, if_pos (by decide),
    List.dropLast_concat, List.length_append]
  rfl

theorem specLine0_append {D : List UInt8} {x : List UInt8 × Nat} (E : List UInt8)
    (h : specLine0 D = some x) : specLine0 (D ++ E) = some x := by
  obtain ⟨raw, tail, rfl, hraw, -, -⟩ := specLine0_some (l := x.1) (n1 := x.2) h
  rw [← h, List.append_assoc, List.cons_append, specLine0_lf _ _ hraw, specLine0_lf _ _ hraw]

theorem specLine0_length {D l : List UInt8} {n1 : Nat} (h : specLine0 D = some (l, n1)) :
    l.length < n1 ∧ n1 ≤ D.length := by
  obtain ⟨raw, tail, rfl, -, rfl | rfl, rfl⟩ := specLine0_some h
  all_goals simp only [List.length_append, List.length_cons, List.length_nil]; omega

theorem specLine0_term {D l : List UInt8} {n1 : Nat} (h : specLine0 D = some (l, n1)) :
    ∃ t, (t = 13 ∨ t = 10) ∧ l ++ [t] <+: D := by
  obtain ⟨raw, tail, rfl, -, rfl | rfl, -⟩ := specLine0_some h
  · exact ⟨10, .inr rfl, tail, (List.append_cons ..).symm⟩
  · exact ⟨13, .inl rfl, List.prefix_append _ _⟩

theorem headerLine_succ (fuel : Nat) (out : List UInt8) (c : Nat) (s : Src) :
    headerLine (fuel + 1) out c s =
      match specLine0 (out.drop c) with
      | some (l, n1) => .line l (c + l.length) (c + n1) out s
      | none =>
        match readMore out s with
        | none => if out.isEmpty then .eofClean else .eofDirty
        | some (out', s') => headerLine fuel out' c s' := by
  rw [headerLine]
  simp only [specLine0, List.length_drop, Nat.lt_sub_iff_add_lt']
  by_cases hlt : c + ((out.drop c).takeWhile (· != 10)).length < out.length
  · rw [if_pos hlt, if_pos hlt, Nat.add_assoc]
  · rw [if_neg hlt, if_neg hlt]
    rfl

/-- Whatever the chunks, `headerLine` finds the line that `specLine0` finds in the stream `R`.  The last
    conjunct does not repeat the first: it says that the line lies inside the buffer `out'`, and
    `modelStep_eq` needs that because `strtoll` reads the buffer, not the stream. -/
theorem headerLine_spec : ∀ (fuel : Nat) (out : List UInt8) (c : Nat) (s : Src) (R : List UInt8),
    out ++ s.src = R → s.src.length + 2 ≤ fuel →
    (specLine0 (R.drop c) = none ∧
      headerLine fuel out c s = if R.isEmpty then .eofClean else .eofDirty) ∨
    ∃ l n1 out' s', specLine0 (R.drop c) = some (l, n1) ∧
      headerLine fuel out c s = .line l (c + l.length) (c + n1) out' s' ∧ out' ++ s'.src = R ∧
      specLine0 (out'.drop c) = some (l, n1) := by
  intro fuel
  induction fuel with
  | zero => intro _ _ _ _ _ h; exact absurd h (Nat.not_succ_le_zero _)
  | succ fuel ih =>
    intro out c s R hR hf
    rw [headerLine_succ]
    cases h : specLine0 (out.drop c) with
    | some x =>
      -- a line that ends inside the buffer is the line of the whole stream
      have hc : c ≤ out.length := by
        have := specLine0_length h
        rw [List.length_drop] at this; omega
      refine .inr ⟨x.1, x.2, out, s, ?_, rfl, hR, h⟩
      rw [← hR, List.drop_append_of_le_length hc, specLine0_append _ h]
    | none =>
      obtain ⟨got, rest, sched', e, hsrc, -, hgot⟩ := osRead_split kRead s.src s.sched (by decide)
      simp only [readMore, e]
      by_cases hg : got = []
      · subst hg
        rw [hgot rfl, List.append_nil] at hR
        subst hR
        exact .inl ⟨h, rfl⟩
      · rw [if_neg (by simpa using hg)]
        refine ih _ c _ R (by rw [List.append_assoc, hsrc, hR]) ?_
        have := List.length_pos_iff.mpr hg
        rw [← hsrc, List.length_append] at hf
        show rest.length + 2 ≤ fuel
        omega

/-- `strtoll`'s sign: (negative, bytes used). -/
def sign (r1 : List UInt8) : Bool × Nat :=
  match r1 with
  | 45 :: _ => (true, 1)
  | 43 :: _ => (false, 1)
  | _ => (false, 0)

/-- the value of the digits, saturated at LLONG_MIN / LLONG_MAX. -/
def valOf (neg : Bool) (digs : List UInt8) : Int :=
  let v : Nat := digs.foldl (fun a c => a * 10 + (c.toNat - 48)) 0
  if neg then (if v > 2 ^ 63 then -(2 ^ 63 : Int) else -(v : Int))
  else (if v ≥ 2 ^ 63 then (2 ^ 63 - 1 : Int) else (v : Int))

/-- sign and digits at the head of `r1`, which lies behind `ws` bytes of white space. -/
def num (r1 : List UInt8) (ws : Nat) : Int × Nat × Bool :=
  let digs := (r1.drop (sign r1).2).takeWhile isDigit
  if digs.isEmpty then (0, 0, false)
  else (valOf (sign r1).1 digs, ws + (sign r1).2 + digs.length, true)

/-- `strtoll` on `rest`, the end index counted from the start of `rest` (`strtoll_eq`). -/
def scan (rest : List UInt8) : Int × Nat × Bool :=
  num (rest.drop (rest.takeWhile isSpace).length) (rest.takeWhile isSpace).length

theorem strtoll_eq (out : List UInt8) (start : Nat) :
    strtoll out start =
      ((scan (out.drop start)).1, start + (scan (out.drop start)).2.1, (scan (out.drop start)).2.2) := by
  have h : strtoll out start =
      (let ws := ((out.drop start).takeWhile isSpace).length
       let r1 := (out.drop start).drop ws
       let digs := (r1.drop (sign r1).2).takeWhile isDigit
       if digs.isEmpty then (0, start, false)
       else (valOf (sign r1).1 digs, start + ws + (sign r1).2 + digs.length, true)) := rfl
  rw [h]
  unfold scan num
  simp only []
  split <;> simp [Nat.add_assoc]

theorem sign_cons (x : UInt8) (L : List UInt8) :
    sign (x :: L) = if x = 45 then (true, 1) else if x = 43 then (false, 1) else (false, 0) := by
  by_cases h1 : x = 45
  · rw [h1]; rfl
  · by_cases h2 : x = 43
    · rw [h2]; rfl
    · rw [if_neg h1, if_neg h2]
      -- the equation of the catch-all case, which asks that neither pattern matches
      exact sign.eq_3 _ (fun _ e => h1 (List.cons.inj e).1) (fun _ e => h2 (List.cons.inj e).1)

theorem scan_skip (S : List UInt8) (x : UInt8) (Y : List UInt8) (hS : ∀ a ∈ S, isSpace a = true)
    (hx : isSpace x = false) : scan (S ++ x :: Y) = num (x :: Y) S.length := by
  unfold scan
  rw [(takeWhile_append_cons Y hS hx).1, List.drop_left]

theorem scan_of_space (A : List UInt8) (hA : ∀ a ∈ A, isSpace a = true) : scan A = (0, 0, false) := by
  unfold scan
  rw [takeWhile_of_forall hA, List.drop_length]
  rfl

theorem num_append (x : UInt8) (B : List UInt8) (c : UInt8) (Q : List UInt8) (w : Nat)
    (hc : isDigit c = false) : num (x :: (B ++ c :: Q)) w = num (x :: B) w := by
  have hs : sign (x :: (B ++ c :: Q)) = sign (x :: B) := by rw [sign_cons, sign_cons]
  have hle : (sign (x :: B)).2 ≤ (x :: B).length := by
    unfold sign
    split <;> simp
  unfold num
  rw [hs, ← List.cons_append, List.drop_append_of_le_length hle, takeWhile_append_of_neg _ _ _ _ hc]

theorem scan_cases (X : List UInt8) :
    scan X = (0, 0, false) ∨ (scan X).2.2 = true ∧ (X.takeWhile isSpace).length < (scan X).2.1 := by
  unfold scan num
  simp only []
  split
  · exact .inl rfl
  · rename_i h
    have := List.length_pos_iff.mpr (mt List.isEmpty_iff.mpr h)
    exact .inr ⟨rfl, by simp only []; omega⟩

/-- the verdict `headerLoop` draws from `strtoll`'s result `r` (end index relative to the byte after
    the key) on a line with `len` bytes after the key; `none` = "Content-Length parse error". -/
def verdict (r : Int × Nat × Bool) (len : Nat) : Option Nat :=
  if (r.2.1 != len) && !(len == 0 && !r.2.2) then none
  else if decide (r.1 < 0) || !r.2.2 then none
  else some r.1.toNat

theorem verdict_conv_false (len : Nat) : verdict (0, 0, false) len = none := by
  unfold verdict
  cases len <;> simp

theorem verdict_far (r : Int × Nat × Bool) (len : Nat) (h1 : r.2.2 = true) (h2 : len < r.2.1) :
    verdict r len = none := by
  unfold verdict
  rw [if_pos]
  simp only [h1, Bool.not_true, Bool.and_false, Bool.not_false, Bool.and_true, bne_iff_ne]
  omega

/-- only the bytes `A` between the key and the line end decide the verdict, although `strtoll` scans
    on through the buffer `X`: when only white space follows the key it may find digits on a later
    line, but then it ends beyond this one. -/
theorem verdict_prefix (A : List UInt8) (c : UInt8) (hc : c = 13 ∨ c = 10) (X : List UInt8)
    (hX : A ++ [c] <+: X) : verdict (scan X) A.length = verdict (scan A) A.length := by
  obtain ⟨Q, rfl⟩ := hX
  have hcd : isDigit c = false := by rcases hc with rfl | rfl <;> decide
  have hcs : isSpace c = true := by rcases hc with rfl | rfl <;> decide
  rw [List.append_assoc, List.singleton_append]
  rcases forall_or_first_not isSpace A with hA | ⟨S, x, B, rfl, hS, hx⟩
  · rw [scan_of_space A hA, verdict_conv_false]
    have hW : A.length < ((A ++ c :: Q).takeWhile isSpace).length := by
      rw [List.takeWhile_append_of_pos hA, List.takeWhile_cons_of_pos hcs]
      simp
    rcases scan_cases (A ++ c :: Q) with h | ⟨h1, h2⟩
    · rw [h, verdict_conv_false]
    · exact verdict_far _ _ h1 (by omega)
  · rw [List.append_assoc, List.cons_append, scan_skip _ _ _ hS hx, scan_skip _ _ _ hS hx,
      num_append _ _ _ _ _ hcd]

/-- `15` here and in `isCL` is the model's literal, the length of the key `content-length:`
    (`IsKey.length`); positions are counted in line lengths and do not mention it. -/
def clValue (l : List UInt8) : Option Nat := verdict (scan (l.drop 15)) (l.length - 15)

def isCL (l : List UInt8) : Bool :=
  decide (l.length ≥ 15) && (l.take 15).map toLowerByte == contentLengthKey

def finish (len : Option Nat) (c : Nat) : Except Err (Nat × Nat) :=
  match len with
  | none => .error .noLength
  | some n => .ok (n, c)

def lineStep (l : List UInt8) (len : Option Nat) : Except Err (Option Nat) :=
  if isCL l then
    if len.isSome then .error .twoLengths
    else match clValue l with
      | none => .error .lengthParse
      | some v => .ok (some v)
  else .ok len

/-- what `headerLoop` does with the line `l` it has found in the buffer `out`: the model's text with the
    next round abstracted as `k` (so `headerLoop_succ` is `rfl`), which lets `modelStep_eq` speak of one
    round without the loop. -/
def modelStep {α : Type} (out l : List UInt8) (lineEnd : Nat) (len : Option Nat)
    (k : Option Nat → Except Err α) : Except Err α :=
  if isCL l then
    if len.isSome then .error .twoLengths
    else
      let (v, en, conv) := strtoll out (lineEnd - l.length + 15)
      if en != lineEnd && !(l.length == 15 && !conv) then .error .lengthParse
      else if v < 0 || !conv then .error .lengthParse
      else k (some v.toNat)
  else k len

theorem headerLoop_succ (fuel : Nat) (line out : List UInt8) (c : Nat) (s : Src) (len : Option Nat) :
    headerLoop (fuel + 1) line out c s len =
      if line.isEmpty then
        (match len with
         | none => .error .noLength
         | some n => .ok (n, c, out, s))
      else
        match headerLine (s.src.length + 2) out c s with
        | .line l lineEnd c' out' s' => modelStep out' l lineEnd len (headerLoop fuel l out' c' s')
        | _ => .error .eofInHeader := rfl

theorem modelStep_eq {α : Type} {out l : List UInt8} {c n1 : Nat}
    (h : specLine0 (out.drop c) = some (l, n1)) (len : Option Nat) (k : Option Nat → Except Err α) :
    modelStep out l (c + l.length) len k =
      match lineStep l len with
      | .error e => .error e
      | .ok len' => k len' := by
  unfold modelStep lineStep
  by_cases hcl : isCL l = true
  · rw [if_pos hcl, if_pos hcl]
    cases len with
    | some n => rfl
    | none =>
      have hl : 15 ≤ l.length := of_decide_eq_true (Bool.and_eq_true_iff.mp hcl).1
      obtain ⟨t, ht, Q, hQ⟩ := specLine0_term h
      have hv := verdict_prefix (l.drop 15) t ht (out.drop (c + 15))
        ⟨Q, by rw [← List.drop_drop, ← hQ, List.append_assoc l, List.drop_append_of_le_length hl,
          List.append_assoc]⟩
      rw [List.length_drop] at hv
      obtain ⟨L, hL⟩ := Nat.exists_eq_add_of_le hl
      unfold clValue
      rw [Nat.add_sub_cancel, strtoll_eq, ← hv, hL, Nat.add_sub_cancel_left]
      unfold verdict
      generalize scan (out.drop (c + 15)) = r
      obtain ⟨v, en, conv⟩ := r
      -- the model compares buffer positions, `verdict` offsets from the byte after the key
      have e1 : (c + 15 + en != c + (15 + L)) = (en != L) := by
        rw [Nat.add_assoc]
        exact congrArg not (decide_eq_decide.mpr (Nat.add_left_cancel_iff.trans Nat.add_left_cancel_iff))
      have e2 : (15 + L == 15) = (L == 0) := decide_eq_decide.mpr Nat.add_eq_left
      simp only [e1, e2, Option.isSome_none, Bool.false_eq_true, if_false]
      by_cases h1 : ((en != L) && !(L == 0 && !conv)) = true
      · rw [if_pos h1, if_pos h1]
      · rw [if_neg h1, if_neg h1]
        by_cases h2 : (decide (v < 0) || !conv) = true
        · rw [if_pos h2, if_pos h2]
        · rw [if_neg h2, if_neg h2]
  · rw [if_neg hcl, if_neg hcl]

/-- schedule-free specification of `headerLoop` on the stream `D` behind a non-empty line that ended
    at position `c`: (content length, position after the blank line).  For `fun_induction` the branches
    are `case1` no line, `case2` the blank line, `case3` `lineStep` fails, `case4` the loop goes on. -/
def hdrSpec (D : List UInt8) (c : Nat) (len : Option Nat) : Except Err (Nat × Nat) :=
  match _h : specLine0 D with
  | none => .error .eofInHeader
  | some (l, n1) =>
    if l = [] then finish len (c + n1)
    else match lineStep l len with
      | .error e => .error e
      | .ok len' => hdrSpec (D.drop n1) (c + n1) len'
termination_by D.length
decreasing_by
  have := specLine0_length _h
  rw [List.length_drop]
  omega

theorem hdrSpec_none {D : List UInt8} (h : specLine0 D = none) (c : Nat) (len : Option Nat) :
    hdrSpec D c len = .error .eofInHeader := by
  rw [hdrSpec]
  split
  · rfl
  · rename_i h'
    rw [h] at h'
    cases h'

theorem hdrSpec_some {D l : List UInt8} {n1 : Nat} (h : specLine0 D = some (l, n1)) (c : Nat)
    (len : Option Nat) :
    hdrSpec D c len =
      if l = [] then finish len (c + n1)
      else match lineStep l len with
        | .error e => .error e
        | .ok len' => hdrSpec (D.drop n1) (c + n1) len' := by
  rw [hdrSpec]
  split
  · rename_i h'
    rw [h] at h'
    cases h'
  · rename_i h'
    rw [h] at h'
    cases h'
    rfl

/-- `res`, the model's result, is the specification's `spec` plus a buffer and a source that hold the
    stream `R` (`ReadPost`: the same for `read`).  A relation, so that model and specification can be
    rewritten side by side in one goal; a `match`, so that it unfolds by `rfl` once `spec` is a constructor. -/
def LoopPost (R : List UInt8) (spec : Except Err (Nat × Nat))
    (res : Except Err (Nat × Nat × List UInt8 × Src)) : Prop :=
  match spec with
  | .error e => res = .error e
  | .ok (n, c) => ∃ out' s', res = .ok (n, c, out', s') ∧ out' ++ s'.src = R

/-- `R.length - c < fuel` is kept because every line uses up at least its LF; `read` starts the loop
    with `R.length + 2`. -/
theorem headerLoop_post : ∀ (fuel : Nat) (line out : List UInt8) (c : Nat) (s : Src)
    (len : Option Nat) (R : List UInt8), out ++ s.src = R → R.length - c < fuel →
    LoopPost R (if line = [] then finish len c else hdrSpec (R.drop c) c len)
      (headerLoop fuel line out c s len) := by
  intro fuel
  induction fuel with
  | zero => intro _ _ _ _ _ _ _ h; exact absurd h (Nat.not_lt_zero _)
  | succ fuel ih =>
    intro line out c s len R hR hf
    rw [headerLoop_succ]
    by_cases hline : line = []
    · subst hline
      rw [if_pos rfl, List.isEmpty_nil, if_pos rfl]
      cases len with
      | none => exact rfl
      | some n => exact ⟨out, s, rfl, hR⟩
    · rw [if_neg hline, if_neg (by simpa using hline)]
      rcases headerLine_spec _ out c s R hR (Nat.le_refl _) with
        ⟨hspec, e⟩ | ⟨l, n1, out', s', hspec, e, hR', hl⟩
      · rw [e, hdrSpec_none hspec]
        cases R.isEmpty <;> exact rfl
      · have hb := specLine0_length hspec
        rw [List.length_drop] at hb
        have hi := fun len' => ih l out' (c + n1) s' len' R hR' (by omega)
        rw [e, hdrSpec_some hspec, List.drop_drop]
        simp only []
        rw [modelStep_eq hl]
        by_cases hl0 : l = []
        · subst hl0
          have := hi len
          rwa [if_pos rfl] at this ⊢
        · rw [if_neg hl0]
          cases lineStep l len with
          | error e => exact rfl
          | ok len' =>
            have := hi len'
            rwa [if_neg hl0] at this

theorem readBody_spec : ∀ (fuel : Nat) (out : List UInt8) (need : Nat) (s : Src) (R : List UInt8) (T : Nat),
    out ++ s.src = R → out.length + need = T → need < fuel →
    ∃ sched', readBody fuel out need s =
      if T ≤ R.length then some (R.take T, ⟨R.drop T, sched'⟩) else none := by
  intro fuel
  induction fuel with
  | zero => intro _ _ _ _ _ _ _ h; exact absurd h (Nat.not_lt_zero _)
  | succ fuel ih =>
    intro out need s R T hR hT hf
    rw [readBody]
    by_cases h0 : need = 0
    · subst h0 hR hT
      refine ⟨s.sched, ?_⟩
      rw [if_pos (by decide), if_pos (by rw [List.length_append]; exact Nat.le_add_right ..),
        Nat.add_zero, List.take_left, List.drop_left]
    · have hpos := Nat.pos_of_ne_zero h0
      obtain ⟨got, rest, sched', e, hsrc, hle, hgot⟩ := osRead_split need s.src s.sched hpos
      simp only [beq_iff_eq, h0, if_false, e]
      by_cases hg : got = []
      · subst hg hR hT
        refine ⟨[], ?_⟩
        rw [List.isEmpty_nil, if_pos rfl, hgot rfl, List.append_nil,
          if_neg (Nat.not_le.mpr (Nat.lt_add_of_pos_right hpos))]
      · rw [if_neg (by simpa using hg)]
        exact ih (out ++ got) (need - got.length) ⟨rest, sched'⟩ R T
          (by rw [List.append_assoc, hsrc, hR])
          (by rw [List.length_append, Nat.add_assoc, Nat.add_sub_of_le hle, hT])
          (Nat.lt_of_lt_of_le (Nat.sub_lt hpos (List.length_pos_iff.mpr hg)) (Nat.le_of_lt_succ hf))

/-- `ReadRes` without buffer and source: a record comes with the stream behind it. -/
inductive SpecRes where
  | record (r : List UInt8) (R' : List UInt8)
  | eof
  | error (e : Err)

/-- the record that the header block's result (content length `n`, header end `c`) cuts from `R`. -/
def frame (R : List UInt8) : Except Err (Nat × Nat) → SpecRes
  | .error e => .error e
  | .ok (n, c) =>
    if c + n + 4 ≤ R.length then
      if (R.take (c + n + 4)).drop (c + n + 4 - 4) != [13, 10, 13, 10] then .error .noTerminator
      else .record (R.take (c + n + 4)) (R.drop (c + n + 4))
    else .error .eofInBody

def readSpec (V R : List UInt8) : SpecRes :=
  match specLine0 R with
  | none => if R.isEmpty then .eof else .error .eofInHeader
  | some (l, c) => if l != V then .error .badVersion else frame R (hdrSpec (R.drop c) c none)

/-- as `LoopPost`; buffer and source hold the stream `R'` behind the record. -/
def ReadPost (spec : SpecRes) (res : ReadRes) : Prop :=
  match spec with
  | .eof => res = .eof
  | .error e => res = .error e
  | .record r R' => ∃ ov' s', res = .record r ov' s' ∧ ov' ++ s'.src = R'

theorem ver_ok : "WARC/1.0".toUTF8.toList ≠ [] ∧ (10 : UInt8) ∉ "WARC/1.0".toUTF8.toList := by
  decide +kernel

theorem read_post (ov : List UInt8) (s : Src) (R : List UInt8) (hR : ov ++ s.src = R) :
    ReadPost (readSpec "WARC/1.0".toUTF8.toList R) (PV.Warc.read ov s) := by
  unfold PV.Warc.read readSpec
  rcases headerLine_spec _ ov 0 s R hR (Nat.le_refl _) with ⟨hspec, e⟩ | ⟨l, c, out', s', hspec, e, hR', -⟩
  · rw [List.drop_zero] at hspec
    rw [hspec, e]
    cases R.isEmpty <;> exact rfl
  · rw [List.drop_zero] at hspec
    rw [Nat.zero_add, Nat.zero_add] at e
    rw [hspec, e]
    simp only []
    by_cases hv : (l != "WARC/1.0".toUTF8.toList) = true
    · rw [if_pos hv, if_pos hv]
      exact rfl
    · rw [if_neg hv, if_neg hv]
      have hh := headerLoop_post (R.length + 2) l out' c s' none R hR'
        (Nat.lt_succ_of_le (Nat.le_succ_of_le (Nat.sub_le ..)))
      have hl : l ≠ [] := by
        rw [show l = _ by simpa using hv]
        exact ver_ok.1
      rw [if_neg hl] at hh
      rw [show out'.length + s'.src.length = R.length by rw [← hR', List.length_append]]
      generalize hdrSpec (R.drop c) c none = x at hh ⊢
      obtain er | ⟨n, c2⟩ := x
      · rw [show headerLoop _ _ _ _ _ _ = _ from hh]
        exact rfl
      · obtain ⟨out2, s2, e2, rfl⟩ := hh
        rw [e2]
        simp only [frame]
        -- the record is cut off in the same way whether its end is in the buffer already or has
        -- to be read by the body loop
        by_cases ht : c2 + n + 4 < out2.length
        · rw [if_pos ht, List.take_append_of_le_length (Nat.le_of_lt ht),
            List.drop_append_of_le_length (Nat.le_of_lt ht), if_pos (by
              rw [List.length_append]; exact Nat.le_trans (Nat.le_of_lt ht) (Nat.le_add_right ..))]
          split
          · exact rfl
          · exact ⟨_, _, rfl, rfl⟩
        · obtain ⟨sched', eb⟩ := readBody_spec (c2 + n + 4 + 1) out2 (c2 + n + 4 - out2.length) s2 _
            (c2 + n + 4) rfl (Nat.add_sub_of_le (Nat.le_of_not_lt ht)) (Nat.lt_succ_of_le (Nat.sub_le ..))
          rw [if_neg ht, eb]
          by_cases hb : c2 + n + 4 ≤ (out2 ++ s2.src).length
          · rw [if_pos hb, if_pos hb]
            simp only []
            split
            · exact rfl
            · exact ⟨_, _, rfl, rfl⟩
          · rw [if_neg hb, if_neg hb]
            exact rfl

theorem hdrSpec_mono {D : List UInt8} {c : Nat} {len : Option Nat} {n c2 : Nat}
    (h : hdrSpec D c len = .ok (n, c2)) : c ≤ c2 := by
  fun_induction hdrSpec D c len
  case case2 _ _ len _ _ =>
    cases len <;> cases h
    exact Nat.le_add_right ..
  case case4 ih => exact Nat.le_trans (Nat.le_add_right ..) (ih h)
  all_goals cases h

theorem frame_record {R r R' : List UInt8} {x : Except Err (Nat × Nat)} (h : frame R x = .record r R') :
    ∃ n c, x = .ok (n, c) ∧ c + n + 4 ≤ R.length ∧ r = R.take (c + n + 4) ∧ R' = R.drop (c + n + 4) ∧
      [13, 10, 13, 10] <:+ r := by
  unfold frame at h
  split at h
  · cases h
  · rename_i n c
    split at h
    · split at h
      · cases h
      · rename_i hlen hterm
        injection h with h1 h2
        refine ⟨n, c, rfl, hlen, h1.symm, h2.symm, ?_⟩
        rw [← h1, ← Decidable.of_not_not fun hne => hterm (bne_iff_ne.mpr hne)]
        exact List.drop_suffix _ _
    · cases h

theorem frame_ok {R M rest : List UInt8} {n c : Nat} (hR : R = M ++ rest) (hM : M.length = c + n + 4)
    (hterm : [13, 10, 13, 10] <:+ M) : frame R (.ok (n, c)) = .record M rest := by
  obtain ⟨P, rfl⟩ := hterm
  have hP : P.length = c + n + 4 - 4 := by
    rw [List.length_append] at hM
    exact Nat.eq_sub_of_add_eq hM
  simp only [frame]
  rw [if_pos (by rw [hR, List.length_append, hM]; exact Nat.le_add_right ..), hR, List.take_left' hM,
    List.drop_left' hM, List.drop_left' hP]
  rfl

theorem readSpec_record {V R r R' : List UInt8} (h : readSpec V R = .record r R') :
    ∃ c n c2, specLine0 R = some (V, c) ∧ hdrSpec (R.drop c) c none = .ok (n, c2) ∧
      c2 + n + 4 ≤ R.length ∧ r = R.take (c2 + n + 4) ∧ R' = R.drop (c2 + n + 4) ∧
      [13, 10, 13, 10] <:+ r := by
  unfold readSpec at h
  split at h
  · split at h <;> cases h
  · rename_i l c hs
    split at h
    · cases h
    · rename_i hv
      obtain ⟨n, c2, hx, hf⟩ := frame_record h
      have hlV : l = V := by simpa using hv
      rw [hlV] at hs
      exact ⟨c, n, c2, hs, hx, hf⟩

theorem readSpec_record_split {V R r R' : List UInt8} (h : readSpec V R = .record r R') :
    R = r ++ R' ∧ 0 < r.length := by
  obtain ⟨c, n, c2, -, -, hlen, rfl, rfl, -⟩ := readSpec_record h
  refine ⟨(List.take_append_drop _ _).symm, ?_⟩
  rw [List.length_take_of_le hlen]
  exact Nat.succ_pos _

theorem readSpec_record_shape {V R r R' : List UInt8} (h : readSpec V R = .record r R') :
    V <+: r ∧ [13, 10, 13, 10] <:+ r := by
  obtain ⟨c, n, c2, hs, hh, hlen, rfl, -, hsuf⟩ := readSpec_record h
  obtain ⟨t, -, hp⟩ := specLine0_term hs
  have := (specLine0_length hs).1
  have := hdrSpec_mono hh
  refine ⟨?_, hsuf⟩
  apply List.prefix_of_prefix_length_le ((List.prefix_append V [t]).trans hp) (List.take_prefix _ _)
  rw [List.length_take_of_le hlen]
  omega

theorem readSpec_eof {V R : List UInt8} (h : readSpec V R = .eof) : R = [] := by
  unfold readSpec at h
  split at h
  · split at h
    · rename_i hE
      simpa using hE
    · cases h
  · split at h
    · cases h
    · unfold frame at h
      split at h
      · cases h
      · split at h
        · split at h <;> cases h
        · cases h

def parse (V R : List UInt8) : List (List UInt8) × Option Err :=
  match _h : readSpec V R with
  | .eof => ([], none)
  | .error e => ([], some e)
  | .record r R' => (r :: (parse V R').1, (parse V R').2)
termination_by R.length
decreasing_by
  all_goals
    obtain ⟨rfl, hr⟩ := readSpec_record_split ‹_ = SpecRes.record _ _›
    rw [List.length_append]
    exact Nat.lt_add_of_pos_left hr

theorem parse_eq (V R : List UInt8) :
    parse V R =
      match readSpec V R with
      | .eof => ([], none)
      | .error e => ([], some e)
      | .record r R' => (r :: (parse V R').1, (parse V R').2) := by
  rw [parse]
  split
  all_goals
    rename_i h
    rw [h]

theorem readAll_spec : ∀ (fuel : Nat) (ov : List UInt8) (s : Src) (R : List UInt8), ov ++ s.src = R →
    R.length < fuel → PV.Warc.readAll fuel ov s = parse "WARC/1.0".toUTF8.toList R := by
  intro fuel
  induction fuel with
  | zero => intro _ _ _ _ h; exact absurd h (Nat.not_lt_zero _)
  | succ fuel ih =>
    intro ov s R hR hf
    have hp := read_post ov s R hR
    rw [PV.Warc.readAll, parse_eq]
    cases hs : readSpec "WARC/1.0".toUTF8.toList R with
    | eof => rw [hs] at hp; rw [hp]
    | error e => rw [hs] at hp; rw [hp]
    | record r R' =>
      rw [hs] at hp
      obtain ⟨ov', s', e, hR'⟩ := hp
      obtain ⟨rfl, hr⟩ := readSpec_record_split hs
      rw [List.length_append] at hf
      rw [e]
      simp only []
      rw [ih ov' s' R' hR' (Nat.lt_of_lt_of_le (Nat.lt_add_of_pos_left hr) (Nat.le_of_lt_succ hf))]

theorem records_eq (input : List UInt8) (sched : List Nat) :
    records input sched = parse "WARC/1.0".toUTF8.toList input :=
  readAll_spec _ [] ⟨input, sched⟩ input rfl (Nat.lt_succ_self _)

theorem parse_tile (V R : List UInt8) :
    (parse V R).1.flatten <+: R ∧ ((parse V R).2 = none → (parse V R).1.flatten = R) := by
  fun_induction parse V R
  case case1 h => simp [readSpec_eof h]
  case case2 => simp
  case case3 r R' h ih =>
    obtain ⟨rfl, -⟩ := readSpec_record_split h
    rw [List.flatten_cons]
    exact ⟨(List.prefix_append_right_inj r).mpr ih.1, fun hn => by rw [ih.2 hn]⟩

theorem parse_shape (V R : List UInt8) : ∀ r ∈ (parse V R).1, V <+: r ∧ [13, 10, 13, 10] <:+ r := by
  fun_induction parse V R
  case case1 => simp
  case case2 => simp
  case case3 r R' h ih =>
    intro r0 hr0
    rcases List.mem_cons.mp hr0 with rfl | hr0
    · exact readSpec_record_shape h
    · exact ih r0 hr0

theorem hdrSpec_append {D : List UInt8} {c : Nat} {len : Option Nat} {r : Nat × Nat} (E : List UInt8)
    (h : hdrSpec D c len = .ok r) : hdrSpec (D ++ E) c len = .ok r := by
  fun_induction hdrSpec D c len
  case case2 hs =>
    rw [hdrSpec_some (specLine0_append E hs), if_pos rfl]
    exact h
  case case4 l n1 hs hl len' hstep ih =>
    rw [hdrSpec_some (specLine0_append E hs), if_neg hl, hstep,
      List.drop_append_of_le_length (specLine0_length hs).2]
    exact ih h
  all_goals cases h

theorem readSpec_append {V P r P' : List UInt8} (E : List UInt8) (h : readSpec V P = .record r P') :
    readSpec V (P ++ E) = .record r (P' ++ E) := by
  obtain ⟨c, n, c2, hs, hh, hlen, rfl, rfl, hsuf⟩ := readSpec_record h
  unfold readSpec
  rw [specLine0_append E hs]
  simp only [bne_self_eq_false, Bool.false_eq_true, if_false]
  rw [List.drop_append_of_le_length (specLine0_length hs).2, hdrSpec_append E hh]
  exact frame_ok (by rw [← List.append_assoc, List.take_append_drop])
    (List.length_take_of_le hlen) hsuf

theorem readSpec_prefix_error {V R r R' : List UInt8} (h : readSpec V R = .record r R') {k : Nat}
    (hk0 : 0 < k) (hk : k < r.length) : ∃ e, readSpec V (R.take k) = .error e := by
  have hR := (readSpec_record_split h).1
  have hkR : k ≤ R.length := by rw [hR, List.length_append]; omega
  cases hP : readSpec V (R.take k) with
  | error e => exact ⟨e, rfl⟩
  | eof =>
    have := congrArg List.length (readSpec_eof hP)
    rw [List.length_take, List.length_nil] at this
    omega
  | record r2 P2 =>
    have := readSpec_append (R.drop k) hP
    rw [List.take_append_drop, h] at this
    injection this with e1 e2
    have hl := congrArg List.length (readSpec_record_split hP).1
    rw [List.length_take, List.length_append, ← e1] at hl
    omega

theorem parse_concat {α : Type} {V : List UInt8} (f : α → List UInt8) (recs : List α)
    (hrec : ∀ r ∈ recs, readSpec V (f r) = .record (f r) []) :
    parse V (recs.flatMap f) = (recs.map f, none) := by
  induction recs with
  | nil => rw [parse_eq]; rfl
  | cons r recs ih =>
    rw [List.flatMap_cons, parse_eq, readSpec_append _ (hrec r (by simp)), List.nil_append]
    simp only []
    rw [ih (fun x hx => hrec x (by simp [hx]))]
    rfl

theorem ba_toList_loop (bs : ByteArray) (i : Nat) (r : List UInt8) :
    ByteArray.toList.loop bs i r = r.reverse ++ bs.data.toList.drop i := by
  fun_induction ByteArray.toList.loop bs i r
  case case1 i r hi ih =>
    have hi' : i < bs.data.toList.length := by simpa using hi
    have : bs.get! i = bs.data.toList[i] := by
      cases bs with
      | mk d =>
        show d[i]! = _
        simp [getElem!_pos, show i < d.size from hi]
    rw [ih, List.drop_eq_getElem_cons hi', this]
    simp
  case case2 i r hi =>
    rw [List.drop_of_length_le (by simpa using Nat.le_of_not_lt hi)]
    simp

theorem ba_toList (bs : ByteArray) : bs.toList = bs.data.toList := by
  simp [ByteArray.toList, ba_toList_loop]

theorem digit_bounds {c : Char} (h : c.isDigit = true) : 48 ≤ c.toNat ∧ c.toNat ≤ 57 :=
  Char.isDigit_iff_toNat.mp h

theorem digit_toUInt8 {c : Char} (h : c.isDigit = true) : c.toUInt8.toNat = c.toNat := by
  have := digit_bounds h
  unfold Char.toUInt8 Char.toNat at *
  rw [UInt32.toNat_toUInt8]
  omega

theorem utf8_digits : ∀ (cs : List Char), (∀ c ∈ cs, c.isDigit = true) →
    cs.utf8Encode.data.toList = cs.map Char.toUInt8 := by
  intro cs
  induction cs with
  | nil => intro _; simp
  | cons c cs ih =>
    intro h
    have h1 : c.utf8Size = 1 := by
      rw [Char.utf8Size_eq_one_iff, UInt32.le_iff_toNat_le]
      exact Nat.le_trans (digit_bounds (h c (by simp))).2 (by decide)
    rw [List.utf8Encode_cons, ByteArray.toList_data_append, ih (fun x hx => h x (by simp [hx])),
      List.utf8Encode_singleton, String.utf8EncodeChar_eq_singleton h1, List.toList_data_toByteArray]
    rfl

theorem isDigit_iff (b : UInt8) : isDigit b = true ↔ 48 ≤ b.toNat ∧ b.toNat ≤ 57 := by
  unfold isDigit
  simp [UInt8.le_iff_toNat_le]

/-- `ds` is a decimal numeral for `n`, as `strtoll` evaluates it. -/
structure IsDec (ds : List UInt8) (n : Nat) : Prop where
  ne_nil : ds ≠ []
  digits : ∀ d ∈ ds, isDigit d = true
  value : ds.foldl (fun a c => a * 10 + (c.toNat - 48)) 0 = n

theorem foldl_digits : ∀ (cs : List Char) (init : Nat), (∀ c ∈ cs, c.isDigit = true) →
    (cs.map Char.toUInt8).foldl (fun a c => a * 10 + (c.toNat - 48)) init = Nat.ofDigitChars 10 cs init := by
  intro cs
  induction cs with
  | nil => intro init _; rfl
  | cons c cs ih =>
    intro init h
    rw [List.map_cons, List.foldl_cons, Nat.ofDigitChars_cons, ih _ (fun x hx => h x (by simp [hx])),
      digit_toUInt8 (h c (by simp)), Nat.mul_comm]
    rfl

theorem toString_dec (n : Nat) : IsDec (toString n).toUTF8.toList n := by
  have hdig : ∀ c ∈ Nat.toDigits 10 n, c.isDigit = true :=
    fun c hc => Nat.isDigit_of_mem_toDigits (by decide) (by decide) hc
  have e : (toString n).toUTF8.toList = (Nat.toDigits 10 n).map Char.toUInt8 := by
    rw [ba_toList, String.toUTF8_eq_toByteArray, ← String.utf8Encode_toList, Nat.toString_eq_repr,
      Nat.toList_repr]
    exact utf8_digits _ hdig
  rw [e]
  refine ⟨by simp, fun d hd => ?_, ?_⟩
  · obtain ⟨c, hc, rfl⟩ := List.mem_map.mp hd
    have := digit_toUInt8 (hdig c hc)
    have := digit_bounds (hdig c hc)
    rw [isDigit_iff]; omega
  · rw [foldl_digits _ _ hdig]
    exact Nat.ofDigitChars_ten_toDigits

theorem dec_no_lf {ds : List UInt8} {n : Nat} (hds : IsDec ds n) : (10 : UInt8) ∉ ds :=
  fun h => absurd (hds.digits 10 h) (by decide)

theorem digit_not_space {d : UInt8} (h : isDigit d = true) : isSpace d = false := by
  rw [isDigit_iff] at h
  unfold isSpace
  simp only [UInt8.le_iff_toNat_le, Bool.or_eq_false_iff, beq_eq_false_iff_ne, ne_eq,
    Bool.and_eq_false_iff, decide_eq_false_iff_not, ← UInt8.toNat_inj]
  have : (32 : UInt8).toNat = 32 := rfl
  have : (9 : UInt8).toNat = 9 := rfl
  have : (13 : UInt8).toNat = 13 := rfl
  omega

/-- `strtoll` saturates at `LLONG_MAX`. -/
theorem valOf_false {ds : List UInt8} {n : Nat} (h : IsDec ds n) :
    valOf false ds = ((min n (2 ^ 63 - 1) : Nat) : Int) := by
  unfold valOf
  simp only [Bool.false_eq_true, if_false, h.value]
  split <;> omega

theorem valOf_true_neg {ds : List UInt8} {n : Nat} (h : IsDec ds n) (hn : 0 < n) : valOf true ds < 0 := by
  unfold valOf
  simp only [if_true, h.value]
  split <;> omega

theorem verdict_at_end (v : Int) {e len : Nat} (h : e = len) :
    verdict (v, e, true) len = if v < 0 then none else some v.toNat := by
  simp [verdict, h]

theorem num_digits {ds : List UInt8} {n : Nat} (hds : IsDec ds n) (w : Nat) :
    num ds w = (((min n (2 ^ 63 - 1) : Nat) : Int), w + ds.length, true) := by
  obtain ⟨d, ds', rfl⟩ := List.exists_cons_of_ne_nil hds.ne_nil
  have hd := hds.digits d List.mem_cons_self
  -- a digit is no sign byte, and the digits go on to the end of `ds`
  have hs : sign (d :: ds') = (false, 0) := by
    rw [sign_cons, if_neg, if_neg]
    all_goals
      rintro rfl
      exact absurd hd (by decide)
  unfold num
  rw [hs, List.drop_zero, takeWhile_of_forall hds.digits, if_neg (by simp), valOf_false hds, Nat.add_zero]

theorem num_neg {ds : List UInt8} {n : Nat} (hds : IsDec ds n) (w : Nat) :
    num (45 :: ds) w = (valOf true ds, w + 1 + ds.length, true) := by
  unfold num
  rw [show sign (45 :: ds) = (true, 1) from rfl, List.drop_succ_cons, List.drop_zero,
    takeWhile_of_forall hds.digits, if_neg (by simpa using hds.ne_nil)]

/-- `K` is `content-length:` in some mix of cases. -/
structure IsKey (K : List UInt8) : Prop where
  length : K.length = 15
  lower : K.map toLowerByte = contentLengthKey
  no_lf : (10 : UInt8) ∉ K

theorem isCL_key {K : List UInt8} (hK : IsKey K) (rest : List UInt8) : isCL (K ++ rest) = true := by
  unfold isCL
  rw [List.take_left' hK.length, hK.lower]
  simp [hK.length]

theorem clValue_dec {K ds : List UInt8} {n : Nat} (hK : IsKey K) (hds : IsDec ds n) :
    clValue (K ++ 32 :: ds) = some (min n (2 ^ 63 - 1)) := by
  obtain ⟨d, ds', rfl⟩ := List.exists_cons_of_ne_nil hds.ne_nil
  unfold clValue
  rw [List.drop_left' hK.length, ← List.singleton_append,
    scan_skip [32] d ds' (by decide) (digit_not_space (hds.digits d List.mem_cons_self)), num_digits hds,
    verdict_at_end _ (by rw [List.length_append, hK.length, Nat.add_sub_cancel_left, List.length_append]),
    if_neg (Int.not_lt.mpr (Int.natCast_nonneg _)), Int.toNat_natCast]

theorem clValue_neg {K ds : List UInt8} {n : Nat} (hK : IsKey K) (hds : IsDec ds n) (hn : 0 < n) :
    clValue (K ++ 32 :: 45 :: ds) = none := by
  unfold clValue
  rw [List.drop_left' hK.length, ← List.singleton_append, scan_skip [32] 45 ds (by decide) (by decide),
    num_neg hds, verdict_at_end _ (by rw [List.length_append, hK.length, Nat.add_sub_cancel_left,
      List.length_append, Nat.add_assoc, Nat.add_comm 1]; rfl), if_pos (valOf_true_neg hds hn)]

theorem hdrSpec_crlf (l D : List UInt8) (c : Nat) (len : Option Nat) (h10 : (10 : UInt8) ∉ l) :
    hdrSpec (l ++ 13 :: 10 :: D) c len =
      if l = [] then finish len (c + (l.length + 2))
      else match lineStep l len with
        | .error e => .error e
        | .ok len' => hdrSpec D (c + (l.length + 2)) len' := by
  rw [hdrSpec_some (specLine0_crlf l D h10), List.drop_length_add_append]
  rfl

theorem hdrSpec_blank (D : List UInt8) (c : Nat) (len : Option Nat) :
    hdrSpec (13 :: 10 :: D) c len = finish len (c + 2) :=
  (hdrSpec_crlf [] D c len (by simp)).trans (if_pos rfl)

/-- the header loop passes over the block `F`. -/
def Passes (F : List UInt8) : Prop :=
  ∀ D c len, hdrSpec (F ++ D) c len = hdrSpec D (c + F.length) len

theorem passes_nil : Passes [] := fun _ _ _ => rfl

/-- a header line that the loop passes over: not blank, one line, not a Content-Length header. -/
structure OkH (h : List UInt8) : Prop where
  ne_nil : h ≠ []
  no_lf : (10 : UInt8) ∉ h
  not_key : ¬ (h.take 15).map toLowerByte = contentLengthKey

theorem passes_lines (hs : List (List UInt8)) (hok : ∀ h ∈ hs, OkH h) :
    Passes (hs.flatMap (· ++ [13, 10])) := by
  intro D c len
  induction hs generalizing c with
  | nil => exact passes_nil ..
  | cons h hs ih =>
    have hh := hok h (by simp)
    rw [List.flatMap_cons, List.append_assoc, List.append_assoc, List.cons_append, List.cons_append,
      List.nil_append, hdrSpec_crlf _ _ _ _ hh.no_lf, if_neg hh.ne_nil, lineStep,
      if_neg (c := isCL h = true) fun hc => hh.not_key (beq_iff_eq.mp (Bool.and_eq_true_iff.mp hc).2)]
    simp only []
    rw [ih (fun x hx => hok x (by simp [hx]))]
    rw [List.length_append, List.length_append, Nat.add_assoc]
    rfl

theorem hdrSpec_cl {K A : List UInt8} (hK : IsKey K) (hA : (10 : UInt8) ∉ A) (D : List UInt8) (c : Nat)
    (len : Option Nat) :
    hdrSpec (K ++ 32 :: (A ++ 13 :: 10 :: D)) c len =
      if len.isSome then .error .twoLengths
      else match clValue (K ++ 32 :: A) with
        | none => .error .lengthParse
        | some v => hdrSpec D (c + ((K ++ 32 :: A).length + 2)) (some v) := by
  rw [← List.cons_append, ← List.append_assoc, hdrSpec_crlf _ _ _ _ (by simp [hK.no_lf, hA]),
    if_neg (List.append_ne_nil_of_right_ne_nil _ (List.cons_ne_nil _ _)), lineStep, if_pos (isCL_key hK _)]
  cases len with
  | some v => rfl
  | none => cases clValue (K ++ 32 :: A) <;> rfl

theorem hdrSpec_len {K ds : List UInt8} {n : Nat} (hK : IsKey K) (hds : IsDec ds n) (D : List UInt8)
    (c : Nat) :
    hdrSpec (K ++ 32 :: (ds ++ 13 :: 10 :: D)) c none =
      hdrSpec D (c + ((K ++ 32 :: ds).length + 2)) (some (min n (2 ^ 63 - 1))) := by
  rw [hdrSpec_cl hK (dec_no_lf hds), clValue_dec hK hds]
  rfl

theorem readSpec_version (V D : List UInt8) (hV : (10 : UInt8) ∉ V) :
    readSpec V (V ++ 13 :: 10 :: D) = frame (V ++ 13 :: 10 :: D) (hdrSpec D (V.length + 2) none) := by
  unfold readSpec
  rw [specLine0_crlf V D hV]
  simp only [bne_self_eq_false, Bool.false_eq_true, if_false, List.drop_length_add_append]
  rfl

/-- a well-formed header block: version line `V`, header lines `F`, Content-Length with key `K`
    and numeral `ds`, blank line. -/
def mkH (V F K ds : List UInt8) : List UInt8 :=
  V ++ 13 :: 10 :: (F ++ (K ++ 32 :: (ds ++ [13, 10, 13, 10])))

theorem readSpec_mkH {V F K ds : List UInt8} {n : Nat} (D : List UInt8) (hV : (10 : UInt8) ∉ V)
    (hF : Passes F) (hK : IsKey K) (hds : IsDec ds n) :
    readSpec V (mkH V F K ds ++ D) =
      frame (mkH V F K ds ++ D) (.ok (min n (2 ^ 63 - 1), (mkH V F K ds).length)) := by
  -- the length as the header loop adds it up, line by line: the final `rfl` compares the two sums as written
  have hl : (mkH V F K ds).length = V.length + 2 + F.length + ((K ++ 32 :: ds).length + 2) + 2 := by
    simp only [mkH, List.length_append, List.length_cons, List.length_nil]
    omega
  have hm : mkH V F K ds ++ D = V ++ 13 :: 10 :: (F ++ (K ++ 32 :: (ds ++ 13 :: 10 :: 13 :: 10 :: D))) := by
    simp only [mkH, List.append_assoc, List.cons_append, List.nil_append]
  rw [hl, hm, readSpec_version _ _ hV, hF _ _ _, hdrSpec_len hK hds, hdrSpec_blank]
  rfl

theorem readSpec_mk {V F K ds : List UInt8} {n : Nat} (body : List UInt8) (hV : (10 : UInt8) ∉ V)
    (hF : Passes F) (hK : IsKey K) (hds : IsDec ds n) (hn : min n (2 ^ 63 - 1) = body.length) :
    readSpec V (mkH V F K ds ++ body ++ [13, 10, 13, 10]) =
      .record (mkH V F K ds ++ body ++ [13, 10, 13, 10]) [] := by
  rw [List.append_assoc, readSpec_mkH _ hV hF hK hds, hn, ← List.append_assoc]
  exact frame_ok (List.append_nil _).symm
    (by simp only [List.length_append, List.length_cons, List.length_nil]) (List.suffix_append _ _)

theorem readSpec_mk_short {V F K ds : List UInt8} {n : Nat} (body R' : List UInt8) (hV : (10 : UInt8) ∉ V)
    (hF : Passes F) (hK : IsKey K) (hds : IsDec ds n) (hn : min n (2 ^ 63 - 1) < body.length) :
    readSpec V (mkH V F K ds ++ body ++ [13, 10, 13, 10]) ≠
      .record (mkH V F K ds ++ body ++ [13, 10, 13, 10]) R' := by
  intro h
  rw [List.append_assoc, readSpec_mkH _ hV hF hK hds] at h
  obtain ⟨m, c, hx, -, hr, -⟩ := frame_record h
  cases hx
  have hl := congrArg List.length hr
  rw [List.length_take] at hl
  simp only [List.length_append, List.length_cons, List.length_nil] at hl
  omega

theorem readSpec_missing {V F : List UInt8} (rest : List UInt8) (hV : (10 : UInt8) ∉ V) (hF : Passes F) :
    readSpec V (V ++ 13 :: 10 :: (F ++ 13 :: 10 :: rest)) = .error .noLength := by
  rw [readSpec_version _ _ hV, hF _ _ _, hdrSpec_blank]
  rfl

theorem readSpec_negative {V F K ds : List UInt8} {n : Nat} (D : List UInt8) (hV : (10 : UInt8) ∉ V)
    (hF : Passes F) (hK : IsKey K) (hds : IsDec ds n) (hn : 0 < n) :
    readSpec V (V ++ 13 :: 10 :: (F ++ (K ++ 32 :: 45 :: (ds ++ 13 :: 10 :: D)))) =
      .error .lengthParse := by
  rw [readSpec_version _ _ hV, hF _ _ _, ← List.cons_append (a := 45),
    hdrSpec_cl hK (A := 45 :: ds) (by simp [dec_no_lf hds]), clValue_neg hK hds hn]
  rfl

theorem readSpec_duplicate {V F K da F' K' db : List UInt8} {a b : Nat} (D : List UInt8)
    (hV : (10 : UInt8) ∉ V) (hF : Passes F) (hF' : Passes F') (hK : IsKey K) (hK' : IsKey K')
    (hda : IsDec da a) (hdb : IsDec db b) :
    readSpec V (V ++ 13 :: 10 :: (F ++ (K ++ 32 :: (da ++ 13 :: 10 ::
      (F' ++ (K' ++ 32 :: (db ++ 13 :: 10 :: D))))))) = .error .twoLengths := by
  rw [readSpec_version _ _ hV, hF _ _ _, hdrSpec_len hK hda, hF' _ _ _, hdrSpec_cl hK' (dec_no_lf hdb)]
  rfl

theorem readSpec_badVersion {V : List UInt8} (line rest : List UInt8) (h1 : (10 : UInt8) ∉ line)
    (h2 : line ≠ V) (h3 : line ≠ V ++ [13]) : readSpec V (line ++ 10 :: rest) = .error .badVersion := by
  unfold readSpec
  rw [specLine0_lf line rest h1]
  simp only []
  rw [if_pos]
  rw [bne_iff_ne]
  intro e
  rcases stripCr_cases line with h | h
  · exact h2 (h.trans e)
  · exact h3 (h.trans (by rw [e]))

/-- `Content-Length:` and `content-length:`, byte by byte (`strU`, `strL`, `strNeg` tie them to the string
    literals of C17). -/
def keyU : List UInt8 := [67, 111, 110, 116, 101, 110, 116, 45, 76, 101, 110, 103, 116, 104, 58]
def keyL : List UInt8 := [99, 111, 110, 116, 101, 110, 116, 45, 108, 101, 110, 103, 116, 104, 58]

theorem keyU_isKey : IsKey keyU := ⟨rfl, by decide +kernel, by decide +kernel⟩
theorem keyL_isKey : IsKey keyL := ⟨rfl, by decide +kernel, by decide +kernel⟩
theorem strU : "Content-Length: ".toUTF8.toList = keyU ++ [32] := by decide +kernel
theorem strL : "content-length: ".toUTF8.toList = keyL ++ [32] := by decide +kernel
theorem strNeg : "Content-Length: -".toUTF8.toList = keyU ++ [32, 45] := by decide +kernel
end PV.Lemmas.Warc
