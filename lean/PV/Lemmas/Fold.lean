import PV.Model.Fold
import PV.Model.Utf8
import PV.Lemmas.Utf8
/-!
`wrap_lines()` of foldfilter (PV.Model.Fold) is lossless, keeps to the width and cuts on code point boundaries.
Every position the loop keeps is a boundary (`Bd`) of the well-formed line; UTF-8 being a prefix code, slices between
boundaries are well-formed (`Bd_slice`) and no boundary falls inside a code point (`Bd_nest`).  `Inv` is the invariant of the
main loop, `Peeked` what its look-ahead returns, `Fits` the width bound of a piece before it is cut out and `ItemOK` after.
-/
namespace PV.Lemmas.Fold
open PV.Fold PV.Utf8 PV.Spec.Utf8 PV.Lemmas.Utf8

/-- well-formed UTF-8 (same as `Spec.Utf8.WellFormed`) -/
def WF (bs : List UInt8) : Prop :=
  ∃ cs : List Nat, (∀ c ∈ cs, Scalar c) ∧ bs = cs.flatMap encodeCP

variable {line : List UInt8} {o : Opts}

theorem slice_eq_take_drop (a b : Nat) : slice line a b = (line.drop a).take (b - a) :=
  List.drop_take

theorem slice_self (a : Nat) : slice line a a = [] :=
  List.drop_eq_nil_of_le (List.length_take_le ..)

theorem slice_length (a : Nat) {b : Nat} (hb : b ≤ line.length) :
    (slice line a b).length = b - a := by
  unfold slice
  rw [List.length_drop, List.length_take, Nat.min_eq_left hb]

theorem slice_ne_nil {a b : Nat} (hab : a < b) (hb : b ≤ line.length) : slice line a b ≠ [] :=
  List.ne_nil_of_length_pos (slice_length a hb ▸ Nat.sub_pos_of_lt hab)

theorem take_append_slice {a b : Nat} (hab : a ≤ b) :
    line.take a ++ slice line a b = line.take b := by
  have h := List.take_append_drop a (line.take b)
  rwa [List.take_take, Nat.min_eq_left hab] at h

theorem slice_append {a b c : Nat} (hab : a ≤ b) (hbc : b ≤ c) :
    slice line a c = slice line a b ++ slice line b c :=
  List.append_cancel_left (as := line.take a) <| by
    rw [take_append_slice (Nat.le_trans hab hbc), ← List.append_assoc, take_append_slice hab,
      take_append_slice hbc]

/-- `p` is a code point boundary of `line` -/
def Bd (line : List UInt8) (p : Nat) : Prop := p ≤ line.length ∧ WF (line.take p)

theorem Bd_zero (line : List UInt8) : Bd line 0 := ⟨Nat.zero_le _, WellFormed.nil⟩

theorem Bd_length {line : List UInt8} (hv : WF line) : Bd line line.length :=
  ⟨Nat.le_refl _, by rwa [List.take_length]⟩

theorem Bd_slice {a b : Nat} (ha : Bd line a) (hb : Bd line b) (hab : a ≤ b) :
    WF (slice line a b) :=
  WellFormed.cancel_left ha.2 (by rw [take_append_slice hab]; exact hb.2)

theorem Bd_decode (hv : WF line) {p : Nat} (hp : Bd line p) (hlt : p < line.length) :
    decode (line.drop p) ≠ none := by
  have hd : WF (line.drop p) := WellFormed.cancel_left hp.2 (by rwa [List.take_append_drop])
  obtain ⟨c, n, h, _⟩ := WellFormed.decode_append hd (mt List.drop_eq_nil_iff.mp (Nat.not_le.mpr hlt)) []
  rw [List.append_nil] at h
  exact h ▸ nofun

theorem Bd_next {p c n : Nat} (hp : Bd line p) (h : decode (line.drop p) = some (c, n)) :
    Scalar c ∧ 1 ≤ n ∧ Bd line (p + n) ∧ slice line p (p + n) = encodeCP c := by
  obtain ⟨hc, rfl, t, ht⟩ := decode_sound h
  have hs : slice line p (p + (encodeCP c).length) = encodeCP c := by
    rw [slice_eq_take_drop, Nat.add_sub_cancel_left, ← ht, List.take_left' rfl]
  have hle : p + (encodeCP c).length ≤ line.length := by
    have := congrArg List.length ht
    rw [List.length_append, List.length_drop] at this
    have := hp.1
    omega
  refine ⟨hc, encodeCP_length_pos c, ⟨hle, ?_⟩, hs⟩
  rw [← take_append_slice (Nat.le_add_right ..), hs]
  exact WellFormed.append hp.2 (wellFormed_encodeCP hc)

theorem Bd_nest {a b c n : Nat} (ha : Bd line a) (hb : Bd line b)
    (hab : a < b) (hdec : decode (line.drop a) = some (c, n)) : a + n ≤ b := by
  obtain ⟨c', n', h, hn⟩ := WellFormed.decode_append (Bd_slice ha hb (Nat.le_of_lt hab)) (slice_ne_nil hab hb.1)
    ((line.drop a).drop (b - a))
  rw [slice_eq_take_drop, List.take_append_drop, hdec] at h
  cases h
  rw [slice_length a hb.1] at hn
  omega

def DelimRun (o : Opts) (d : List UInt8) : Prop :=
  ∃ cs : List Nat, (∀ c ∈ cs, Scalar c ∧ c ∈ o.delims) ∧ d = cs.flatMap encodeCP

theorem DelimRun_nil (o : Opts) : DelimRun o [] := ⟨[], nofun, rfl⟩

theorem DelimRun_cons {c : Nat} {d : List UInt8} (hs : Scalar c) (hc : c ∈ o.delims) :
    DelimRun o d → DelimRun o (encodeCP c ++ d) := by
  rintro ⟨cs, h, rfl⟩
  exact ⟨c :: cs, List.forall_mem_cons.mpr ⟨⟨hs, hc⟩, h⟩, List.flatMap_cons.symm⟩

theorem DelimRun_WF {d : List UInt8} : DelimRun o d → WF d := by
  rintro ⟨cs, h, rfl⟩
  exact ⟨cs, fun c hc => (h c hc).1, rfl⟩

theorem DelimRun_decodeAll {d : List UInt8} :
    DelimRun o d → ∃ cs, decodeAll d = some cs ∧ ∀ c ∈ cs, c ∈ o.delims := by
  rintro ⟨cs, h, rfl⟩
  exact ⟨cs, (decodeAll_iff _ _).mpr ⟨fun c hc => (h c hc).1, rfl⟩, fun c hc => (h c hc).2⟩

theorem findDelimiter_eq_none_iff {ds : List Nat} {c : Nat} : findDelimiter ds c = none ↔ c ∉ ds := by
  have : findDelimiter ds c = ds.findIdx? (· == c) := by
    unfold findDelimiter; split <;> simp only [*]
  rw [this, List.findIdx?_eq_none_iff]
  exact ⟨fun h hc => by simpa using h c hc, fun h x hx => beq_eq_false_iff_ne.mpr fun e => h (e ▸ hx)⟩

/-- a code point that is no delimiter starts at `p`: reading it resets `pfd`, and `peek` stops in front of it -/
def NonDelimAt (line : List UInt8) (o : Opts) (p : Nat) : Prop :=
  ∃ c n, decode (line.drop p) = some (c, n) ∧ c ∉ o.delims

/-- `peek`, started at the cut position `p0`, returns `pce`, behind the delimiter run that follows the cut -/
structure Peeked (line : List UInt8) (o : Opts) (last p0 pce : Nat) : Prop where
  le : p0 ≤ pce
  bd : Bd line pce
  run : DelimRun o (slice line p0 pce)
  inWidth : o.keep = true → pce - last ≤ o.width ∨ pce = p0
  /-- a non-delimiter in reach makes `peek` stop at a non-delimiter -/
  nd : ∀ b, Bd line b → p0 ≤ b → b - last < o.width → NonDelimAt line o b → NonDelimAt line o pce

/-- `peek` returns where it stands; for `nd` that needs a reason: every boundary behind `p` is out of reach (there is none,
    the width is used up, the next code point crosses it), or `p` itself is in front of a non-delimiter -/
theorem Peeked.stop {last p : Nat} (hb : Bd line p)
    (h : (∀ b, Bd line b → p < b → o.width ≤ b - last) ∨ NonDelimAt line o p) : Peeked line o last p p where
  le := Nat.le_refl _
  bd := hb
  run := slice_self p ▸ DelimRun_nil o
  inWidth _ := Or.inr rfl
  nd b hbb hle hlt hnd := (Nat.eq_or_lt_of_le hle).elim (· ▸ hnd) fun hpb =>
    h.elim (fun h => absurd hlt (Nat.not_lt.mpr (h b hbb hpb))) id

theorem peek_spec (hv : WF line) (o : Opts) (last fuel p0 : Nat) (hb : Bd line p0) (hf : line.length < p0 + fuel) :
    ∃ pce, peek line o last fuel p0 = some pce ∧ Peeked line o last p0 pce := by
  fun_induction peek line o last fuel p0 with
  | case1 => exact absurd hb.1 (Nat.not_le.mpr hf)                       -- out of fuel
  | case2 fuel p hge =>                                                   -- end of the line
    exact ⟨p, rfl, .stop hb (.inl fun b hbb hpb => absurd (Nat.lt_of_lt_of_le hpb hbb.1) (Nat.not_lt.mpr hge))⟩
  | case3 fuel p _ hk =>                                                  -- keep mode, width used up
    simp only [Bool.and_eq_true, decide_eq_true_eq] at hk
    exact ⟨p, rfl, .stop hb (.inl fun b _ hpb => Nat.le_trans hk.2 (Nat.sub_le_sub_right (Nat.le_of_lt hpb) last))⟩
  | case4 fuel p hlt _ hdec => exact absurd hdec (Bd_decode hv hb (Nat.lt_of_not_le hlt))   -- decode error
  | case5 fuel p _ _ ch cl hdec hk =>                                     -- keep mode, the next code point crosses the width
    simp only [Bool.and_eq_true, decide_eq_true_eq] at hk
    exact ⟨p, rfl, .stop hb (.inl fun b hbb hpb =>
      Nat.le_of_lt (Nat.lt_of_lt_of_le hk.2 (Nat.sub_le_sub_right (Bd_nest hb hbb hpb hdec) last)))⟩
  | case6 fuel p _ _ ch cl hdec _ hnd =>                                  -- a non-delimiter
    exact ⟨p, rfl, .stop hb (.inr ⟨ch, cl, hdec, findDelimiter_eq_none_iff.mp (Option.isNone_iff_eq_none.mp hnd)⟩)⟩
  | case7 fuel p hlt _ ch cl hdec hk hnd ih =>                            -- a delimiter: on to the next code point
    obtain ⟨hc, h1, hbn, hsl⟩ := Bd_next hb hdec
    obtain ⟨pce, hp, h⟩ := ih hbn (by omega)
    have hmem : ch ∈ o.delims :=
      Decidable.of_not_not fun h => hnd (Option.isNone_iff_eq_none.mpr (findDelimiter_eq_none_iff.mpr h))
    refine ⟨pce, hp, Nat.le_trans (Nat.le_add_right ..) h.le, h.bd, ?_, fun hkt => ?_, fun b hbb hle hlt hndb => ?_⟩
    · rw [slice_append (Nat.le_add_right p cl) h.le, hsl]
      exact DelimRun_cons hc hmem h.run
    · simp only [hkt, Bool.true_and, decide_eq_true_eq] at hk
      exact .inl ((h.inWidth hkt).elim id (· ▸ Nat.le_of_not_lt hk))
    · rcases Nat.eq_or_lt_of_le hle with rfl | hlt'
      · obtain ⟨c', n', hd', hn'⟩ := hndb
        cases hdec.symm.trans hd'
        exact absurd hmem hn'
      · exact h.nd b hbb (Bd_nest hb hbb hlt' hdec) hlt hndb

/-- an output pair (piece, withheld run): the piece keeps to the width or is a single code point; only `-s` withholds -/
def ItemOK (o : Opts) (it : List UInt8 × List UInt8) : Prop :=
  (it.1.length ≤ o.width ∨ ∃ c, decodeAll it.1 = some [c]) ∧ WF it.1 ∧
  (o.keep = true → it.2 = []) ∧ DelimRun o it.2

/-- the slice from `a` to `b` may be cut out as a piece: it keeps to the width or is a single code point -/
def Fits (line : List UInt8) (o : Opts) (a b : Nat) : Prop :=
  b - a ≤ o.width ∨ ∃ c, decode (line.drop a) = some (c, b - a)

theorem Fits.piece {a b : Nat} (h : Fits line o a b) (ha : Bd line a)
    (hb : Bd line b) (hab : a ≤ b) {d : List UInt8} (hk : o.keep = true → d = []) (hd : DelimRun o d) :
    ItemOK o (slice line a b, d) := by
  refine ⟨h.imp (fun h => by rwa [slice_length a hb.1]) fun ⟨c, hd⟩ => ⟨c, ?_⟩, Bd_slice ha hb hab, hk, hd⟩
  obtain ⟨hc, _, _, hs⟩ := Bd_next ha hd
  rw [Nat.add_sub_cancel' hab] at hs
  exact (decodeAll_iff _ _).mpr ⟨List.forall_mem_singleton.mpr hc, hs.trans (List.flatMap_singleton ..).symm⟩

/-- invariant of `loop`: the output so far is `line.take s.last` in good pieces, the piece in progress is shorter than the
    width, and every position the state remembers is a boundary -/
structure Inv (line : List UInt8) (o : Opts) (s : St) : Prop where
  le : s.last ≤ s.pos
  bl : Bd line s.last
  bp : Bd line s.pos
  /-- after a cut the remembered delimiter positions may lie behind `pos`, but never out of reach of `last` -/
  near : ∀ p ∈ s.pd, Bd line p ∧ p - s.last ≤ o.width
  bpfd : Bd line s.pfd
  lt : s.pos - s.last < o.width
  /-- `pfd` may be stale after a cut, but then the next code point resets it -/
  pfdNear : s.pfd - s.last ≤ o.width ∨ NonDelimAt line o s.pos
  cat : (s.out.reverse).flatMap (fun x => x.1 ++ x.2) = line.take s.last
  items : ∀ it ∈ s.out, ItemOK o it ∧ it.1 ≠ []

/-- the new `(pd, pfd)`; `hm` is the `let` of `loop` that binds them, in the form `loop.induct` hands it over -/
theorem marks_ok {s : St} (hI : Inv line o s) {ch cl : Nat}
    (hdec : decode (line.drop s.pos) = some (ch, cl)) {pd : List Nat} {pfd : Nat}
    (hm : (match findDelimiter o.delims ch with
      | some i => (s.pd.set i s.pfd, s.pfd)
      | none => (s.pd, s.pos + cl)) = (pd, pfd)) :
    (∀ p ∈ pd, Bd line p ∧ p - s.last ≤ o.width) ∧ Bd line pfd ∧
      (pfd - s.last ≤ o.width ∨ pfd = s.pos + cl ∧ NonDelimAt line o s.pos) := by
  split at hm <;> cases hm
  · rename_i i hi
    have hw : s.pfd - s.last ≤ o.width := hI.pfdNear.resolve_right fun ⟨c, n, hd, hn⟩ => by
      rw [hdec] at hd; cases hd
      rw [findDelimiter_eq_none_iff.mpr hn] at hi; cases hi
    exact ⟨fun p hp => (List.mem_or_eq_of_mem_set hp).elim (hI.near p) (· ▸ ⟨hI.bpfd, hw⟩), hI.bpfd, .inl hw⟩
  · rename_i hi
    obtain ⟨_, _, hbn, _⟩ := Bd_next hI.bp hdec
    exact ⟨hI.near, hbn, .inr ⟨rfl, ch, cl, hdec, findDelimiter_eq_none_iff.mp hi⟩⟩

/-- the fuel `loop` needs: `pos` goes back at a cut, but then `last` has grown -/
def mu (n last pos : Nat) : Nat := (n - last) * (n + 2) + (n - pos) + 1

theorem mu_advance {n last pos pos' : Nat} (h : pos < pos') (hn : pos < n) : mu n last pos' < mu n last pos :=
  Nat.succ_lt_succ (Nat.add_lt_add_left (Nat.sub_lt_sub_left hn h) _)

theorem mu_cut {n last pos pce : Nat} (h : last < pce) (hn : pce ≤ n) : mu n pce pce < mu n last pos := by
  have := Nat.mul_le_mul_right (n + 2) (Nat.sub_lt_sub_left (Nat.lt_of_lt_of_le h hn) h)
  rw [Nat.succ_mul] at this
  unfold mu; omega

/-- the branch of `loop` that cuts.  The statement repeats `loop`'s `let`s (its `pos` is bound twice, the second shadowing the
    first) so that it applies to the corresponding cases of `loop.induct` as they come -/
theorem cut_spec (hv : WF line) (hw : 1 ≤ o.width) {s : St}
    (hI : Inv line o s) {ch cl : Nat} (hdec : decode (line.drop s.pos) = some (ch, cl)) :
    have pos := s.pos + cl
    ∀ (pd : List Nat) (pfd : Nat),
      (match findDelimiter o.delims ch with
        | some i => (s.pd.set i s.pfd, s.pfd)
        | none => (s.pd, pos)) = (pd, pfd) →
    have overshoot := decide (pos - s.last > o.width) && decide (pos - cl > s.last)
    have pos := if overshoot = true then pos - cl else pos
    have posCut := match pd.find? (· > s.last) with
      | some p => p
      | none => pos
    ∃ pce, peek line o s.last (line.length + 1) posCut = some pce ∧ s.last < pce ∧ pce ≤ line.length ∧
      Inv line o ⟨pce, pce, pd, pfd, (if o.keep then (slice line s.last pce, [])
        else (slice line s.last posCut, slice line posCut pce)) :: s.out⟩ := by
  intro new pd pfd hm ov pos pc
  obtain ⟨hpd, hbpfd, hpfd⟩ := marks_ok hI hdec hm
  -- `pos` is in front of the code point that does not fit any more, or behind it if that is alone in the piece
  have hpos : s.last < pos ∧ Bd line pos ∧ Fits line o s.last pos := by
    rcases Bool.eq_false_or_eq_true ov with h | h
    · rw [show pos = s.pos by simp only [pos, h, if_true, new, Nat.add_sub_cancel]]
      simp only [ov, Bool.and_eq_true, decide_eq_true_eq, new, Nat.add_sub_cancel] at h
      exact ⟨h.2, hI.bp, .inl (Nat.le_of_lt hI.lt)⟩
    · rw [show pos = s.pos + cl by simp only [pos, h, Bool.false_eq_true, if_false, new]]
      simp only [ov, Bool.and_eq_false_iff, decide_eq_false_iff_not, new, Nat.add_sub_cancel] at h
      obtain ⟨_, h1, hbn, _⟩ := Bd_next hI.bp hdec
      refine ⟨Nat.lt_of_le_of_lt hI.le (Nat.lt_add_of_pos_right h1), hbn, h.imp Nat.le_of_not_lt fun h => ⟨ch, ?_⟩⟩
      rw [Nat.le_antisymm hI.le (Nat.le_of_not_lt h), Nat.add_sub_cancel_left]
      exact hdec
  -- the cut is at a remembered delimiter position behind `last`, else at `pos`
  have hpc : s.last < pc ∧ Bd line pc ∧ Fits line o s.last pc := by
    simp only [pc]
    split
    · rename_i p hf
      have hp := hpd p (List.mem_of_find?_eq_some hf)
      exact ⟨by simpa using List.find?_some hf, hp.1, .inl hp.2⟩
    · exact hpos
  obtain ⟨hlc, hbc, hfit⟩ := hpc
  obtain ⟨pce, hpk, hp⟩ := peek_spec hv o s.last (line.length + 1) pc hbc (Nat.lt_add_left pc (Nat.lt_succ_self _))
  have hle : s.last < pce := Nat.lt_of_lt_of_le hlc hp.le
  have hmono (p : Nat) : p - s.last ≤ o.width → p - pce ≤ o.width :=
    Nat.le_trans (Nat.sub_le_sub_left (Nat.le_of_lt hle) p)
  refine ⟨pce, hpk, hle, hp.bd.1, ?_⟩
  generalize hit : (if o.keep = true then _ else _) = it
  have hit' : it.1 ++ it.2 = slice line s.last pce ∧ ItemOK o it ∧ it.1 ≠ [] := by
    split at hit <;> subst hit
    · rename_i hk
      have : Fits line o s.last pce := (hp.inWidth hk).elim .inl (· ▸ hfit)
      exact ⟨List.append_nil _, this.piece hI.bl hp.bd (Nat.le_of_lt hle) (fun _ => rfl) (DelimRun_nil o),
        slice_ne_nil hle hp.bd.1⟩
    · rename_i hk
      exact ⟨(slice_append (Nat.le_of_lt hlc) hp.le).symm,
        hfit.piece hI.bl hbc (Nat.le_of_lt hlc) (fun h => absurd h hk) hp.run, slice_ne_nil hlc hbc.1⟩
  exact {
    le := Nat.le_refl _
    bl := hp.bd
    bp := hp.bd
    near := fun p h => ⟨(hpd p h).1, hmono p (hpd p h).2⟩
    bpfd := hbpfd
    lt := Nat.sub_self pce ▸ hw
    -- else `pfd` was just set behind the non-delimiter at `s.pos`: the cut is behind that too, or `peek` meets it
    pfdNear := hpfd.elim (.inl ∘ hmono pfd) fun ⟨h1, hnd⟩ => (Nat.lt_or_ge s.pos pc).imp
      (fun hlt => Nat.sub_eq_zero_of_le (h1 ▸ Nat.le_trans (Bd_nest hI.bp hbc hlt hdec) hp.le) ▸ Nat.zero_le _)
      fun hge => hp.nd s.pos hI.bp hge hI.lt hnd
    cat := by
      show ((it :: s.out).reverse).flatMap _ = line.take pce
      rw [List.reverse_cons, List.flatMap_append, hI.cat, List.flatMap_singleton, hit'.1,
        take_append_slice (Nat.le_of_lt hle)]
    items := fun x hx => (List.mem_cons.mp hx).elim (· ▸ hit'.2) (hI.items x) }

theorem loop_spec (hv : WF line) (hw : 1 ≤ o.width) (fuel : Nat) (s : St) (hI : Inv line o s)
    (hf : mu line.length s.last s.pos ≤ fuel) :
    ∃ s', loop line o fuel s = some s' ∧ Inv line o s' ∧ line.length ≤ s'.pos := by
  fun_induction loop line o fuel s with
  | case1 => nomatch hf                                                   -- out of fuel
  | case2 fuel s hge => exact ⟨s, rfl, hI, hge⟩                           -- end of the line
  | case3 fuel s hlt hdec => exact absurd hdec (Bd_decode hv hI.bp (Nat.lt_of_not_le hlt))  -- decode error
  | case4 fuel s hlt ch cl hdec new pd pfd hm ov pos hadv ih =>           -- the code point fits: advance
    obtain ⟨hpd, hbpfd, hpfd⟩ := marks_ok hI hdec hm
    obtain ⟨_, h1, hbn, _⟩ := Bd_next hI.bp hdec
    simp only [Bool.and_eq_true, Bool.not_eq_true', decide_eq_true_eq] at hadv
    have hp : pos = s.pos + cl := by simp only [pos, hadv.1, Bool.false_eq_true, if_false, new]
    rw [hp] at hadv ih ⊢
    have hpfd' : pfd - s.last ≤ o.width := hpfd.elim id fun h => h.1 ▸ Nat.le_of_lt hadv.2
    exact ih { hI with le := Nat.le_trans hI.le (Nat.le_add_right ..), bp := hbn, near := hpd, bpfd := hbpfd
                       lt := hadv.2, pfdNear := .inl hpfd' }
      (Nat.le_of_lt_succ (Nat.lt_of_lt_of_le (mu_advance (Nat.lt_add_of_pos_right h1) (Nat.lt_of_not_le hlt)) hf))
  | case5 fuel s hlt ch cl hdec new pd pfd hm ov pos hcut pc hpk =>       -- cut, `peek` fails
    obtain ⟨pce, h, _⟩ := cut_spec hv hw hI hdec pd pfd hm
    cases hpk.symm.trans h
  | case6 fuel s hlt ch cl hdec new pd pfd hm ov pos hcut pc pce hpk item ih =>   -- cut
    obtain ⟨pce', h, hlt', hle', hI'⟩ := cut_spec hv hw hI hdec pd pfd hm
    cases hpk.symm.trans h
    exact ih hI' (Nat.le_of_lt_succ (Nat.lt_of_lt_of_le (mu_cut hlt' hle') hf))

theorem wrapLines_spec (line : List UInt8) (o : Opts) (hv : WF line) (hw : 1 ≤ o.width) :
    ∃ ps, wrapLines line o = some ps ∧ ps.flatMap (fun x => x.1 ++ x.2) = line ∧
      (∀ it ∈ ps, ItemOK o it) ∧ ps ≠ [] ∧ (line ≠ [] → ∀ it ∈ ps, it.1 ≠ []) := by
  have hI0 : Inv line o ⟨0, 0, List.replicate o.delims.length 0, 0, []⟩ :=
    { le := Nat.le_refl _, bl := Bd_zero line, bp := Bd_zero line, bpfd := Bd_zero line, lt := hw
      near := fun p hp => by rw [List.eq_of_mem_replicate hp]; exact ⟨Bd_zero line, Nat.zero_le _⟩
      pfdNear := .inl (Nat.zero_le _), cat := rfl, items := nofun }
  obtain ⟨s, hs, hI, hge⟩ := loop_spec hv hw ((line.length + 1) * (line.length + 2)) _ hI0 (by
    simp only [mu, Nat.sub_zero, Nat.add_mul, Nat.one_mul]; omega)
  have hpos : s.pos = line.length := Nat.le_antisymm hI.bp.1 hge
  have hle := hI.le
  have hfin : ItemOK o (slice line s.last s.pos, []) :=
    Fits.piece (.inl (Nat.le_of_lt hI.lt)) hI.bl hI.bp hle (fun _ => rfl) (DelimRun_nil o)
  have hcat : s.out.reverse.flatMap (fun x => x.1 ++ x.2) ++ slice line s.last s.pos = line := by
    rw [hI.cat, take_append_slice hle, hpos, List.take_length]
  unfold wrapLines
  rw [hs]
  dsimp only
  split
  · rename_i hc
    simp only [Bool.or_eq_true, decide_eq_true_eq, beq_iff_eq] at hc
    refine ⟨_, rfl, ?_, fun it hit => ?_, by simp, fun hne it hit => ?_⟩
    · rw [List.reverse_cons, List.flatMap_append, List.flatMap_singleton, List.append_nil, hcat]
    · exact (List.mem_cons.mp (List.mem_reverse.mp hit)).elim (· ▸ hfin) fun h => (hI.items it h).1
    · have hlt : s.last < s.pos := hc.resolve_right fun h0 => hne (List.eq_nil_of_length_eq_zero (hpos ▸ h0))
      exact (List.mem_cons.mp (List.mem_reverse.mp hit)).elim (· ▸ slice_ne_nil hlt hI.bp.1) fun h => (hI.items it h).2
  · rename_i hc
    simp only [Bool.or_eq_true, decide_eq_true_eq, beq_iff_eq, not_or] at hc
    rw [Nat.le_antisymm hle (Nat.le_of_not_lt hc.1), slice_self, List.append_nil] at hcat
    refine ⟨_, rfl, hcat, fun it hit => (hI.items it (List.mem_reverse.mp hit)).1, fun h0 => ?_,
      fun _ it hit => (hI.items it (List.mem_reverse.mp hit)).2⟩
    rw [h0, List.flatMap_nil] at hcat
    rw [← hcat] at hpos
    exact hc.2 hpos

-- both `rfl`s evaluate `PV.Gen.foldfilterCollectStripCr` to `false`, and fail if it is regenerated as `true`
theorem stripCr_eq (r : List UInt8) : stripCr r = r := rfl

theorem rejoin_id (ps : List (List UInt8 × List UInt8)) :
    rejoin id ps = ps.flatMap (fun x => x.1 ++ x.2) := rfl

theorem foldfilter_spec (hw : 1 ≤ o.width) (lines : List (List UInt8)) (hv : ∀ l ∈ lines, WF l) :
    ∃ pss : List (List (List UInt8 × List UInt8)), pss.map (rejoin id) = lines ∧
      ∀ child, foldfilter child o lines = some (pss.map (rejoin child)) := by
  induction lines with
  | nil => exact ⟨[], rfl, fun _ => rfl⟩
  | cons l ls ih =>
    obtain ⟨hl, hv⟩ := List.forall_mem_cons.mp hv
    obtain ⟨ps, hps, hcat, _⟩ := wrapLines_spec l o hl hw
    obtain ⟨pss, hl, h⟩ := ih hv
    exact ⟨ps :: pss, by rw [List.map_cons, hl, rejoin_id, hcat], fun child => by rw [foldfilter, hps, h child]; rfl⟩

end PV.Lemmas.Fold
