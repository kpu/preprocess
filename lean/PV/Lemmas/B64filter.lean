import PV.Model.B64filter
import PV.Lemmas.Base64
namespace PV.Lemmas.B64filter
open PV.B64filter PV.Base64 PV.Spec.Records

/-- CR stripping is off in the reader (`Gen.b64filterCollectStripCr = false`). -/
theorem stripCr_eq (r : List UInt8) : stripCr r = r := by
  simp [stripCr, PV.Gen.b64filterCollectStripCr]

theorem describe_eq (doc : List UInt8) : ∃ ys : List UInt8,
    (describe doc).lines = splitRecords 10 false (ys ++ [10]) ∧
    doc = ys ++ (if (describe doc).trailing then [10] else []) := by
  unfold describe
  cases ht : doc.getLast? == some 10 with
  | true =>
    obtain ⟨ys, rfl⟩ := List.getLast?_eq_some_iff.mp (beq_iff_eq.mp ht)
    exact ⟨ys, rfl, rfl⟩
  | false => exact ⟨doc, rfl, (List.append_nil doc).symm⟩

theorem join_nl (rest : List (List UInt8)) (a : List UInt8) :
    a ++ rest.flatMap (fun l => 10 :: l) ++ [10] = (a :: rest).flatMap (· ++ [10]) := by
  induction rest generalizing a with
  | nil => simp
  | cons b rest ih =>
    rw [List.flatMap_cons, List.flatMap_cons, ← ih b]
    simp

theorem reassemble_eq (ls : List (List UInt8)) (t : Bool) (ys : List UInt8)
    (h : ls.flatMap (· ++ [10]) = ys ++ [10]) : reassemble ls t = ys ++ (if t then [10] else []) := by
  cases ls with
  | nil => simp at h
  | cons a rest =>
    rw [reassemble, List.append_cancel_right ((join_nl rest a).trans h)]

theorem decodeAllDocs_length (input docs : List (List UInt8)) (h : decodeAllDocs input = some docs) :
    docs.length = input.length := by
  induction input generalizing docs with
  | nil => cases h; rfl
  | cons l ls ih =>
    rw [decodeAllDocs] at h
    split at h
    · next d rest _ hr =>
      cases h
      rw [List.length_cons, List.length_cons, ih rest hr]
    · cases h

theorem decodeAllDocs_encoded (docs : List (List UInt8)) :
    decodeAllDocs (docs.map encode) = some docs := by
  induction docs with
  | nil => rfl
  | cons d ds ih =>
    simp only [List.map_cons, decodeAllDocs, PV.Lemmas.Base64.decode_encode, ih]

theorem collect_length (descs : List Desc) (xs out : List (List UInt8)) (h : collect descs xs = some out) :
    out.length = descs.length := by
  induction descs generalizing xs out with
  | nil =>
    cases xs with
    | nil => cases h; rfl
    | cons x xs => cases h
  | cons d ds ih =>
    rw [collect] at h
    split at h
    · cases h
    · split at h
      · cases h
      · next rest hr =>
        cases h
        rw [List.length_cons, List.length_cons, ih _ _ hr]

end PV.Lemmas.B64filter
