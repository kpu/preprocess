import PV.Model.Cleaning
import PV.Spec.Utf8
import PV.Lemmas.Utf8
/-!
The scanning loop of simple_cleaning (PV.Model.Cleaning) is the decoder followed by `List.foldlM (stepCp p)`, which
succeeds exactly on the lists without a control character, an unknown script or a long run; its registers
`(prev, prevRun)` stand for a block of equal characters in front of what is still to be read (`run_eq_some_iff`).
-/
namespace PV.Lemmas.Cleaning
open PV.Cleaning PV.Utf8

variable (p : Params)

abbrev run (s : St) (cs : List Nat) : Option St := cs.foldlM (stepCp p) s

theorem scanFuel_eq (fuel : Nat) (s : St) (bs : List UInt8) :
    scanFuel p fuel s bs = (decodeAllFuel fuel bs).bind (run p s) := by
  -- the two loops are the same recursion on the same fuel: each case exposes the matching branch of `decodeAllFuel`
  fun_induction scanFuel p fuel s bs with
  | case1 => simp [decodeAllFuel]                                -- no byte left
  | case2 => rfl                                                 -- out of fuel
  | case3 fuel s b r hdec => simp [decodeAllFuel, hdec]          -- decode error
  | case4 fuel s b r c n hdec hstep =>                           -- `stepCp` rejects
    simp only [decodeAllFuel, hdec]
    cases decodeAllFuel fuel (List.drop n (b :: r)) <;> simp [hstep]
  | case5 fuel s b r c n hdec s' hstep ih =>                     -- on to the next code point
    simp only [decodeAllFuel, hdec, ih]
    cases decodeAllFuel fuel (List.drop n (b :: r)) <;> simp [hstep]

theorem scan_eq (bs : List UInt8) : scan p bs = (decodeAll bs).bind (run p init) :=
  scanFuel_eq p bs.length init bs

theorem run_cons_eq_some (s s'' : St) (c : Nat) (cs : List Nat) :
    run p s (c :: cs) = some s'' ↔ ∃ s', stepCp p s c = some s' ∧ run p s' cs = some s'' := by
  rw [run, List.foldlM_cons]; exact Option.bind_eq_some_iff

theorem stepCp_eq_some_iff (s s' : St) (c : Nat) : stepCp p s c = some s' ↔
    isCtrl c = false ∧ ∃ sc, p.scriptOf c = some sc ∧
      (s.prev = c → p.run ≤ s.prevRun + 1 → p.isSpace c = true) ∧
      { scripts := sc :: s.scripts, punct := s.punct + (if p.isPunct c then 1 else 0),
        spaces := s.spaces + (if p.isSpace c then 1 else 0), prev := c,
        prevRun := if s.prev = c then s.prevRun + 1 else 1 } = s' := by
  unfold stepCp
  cases isCtrl c
  case true => simp
  cases p.scriptOf c
  case none => simp
  by_cases hp : s.prev = c
  · subst hp; simp    -- this branch of `stepCp` leaves `prev` alone: it is `c` already
  · simp [hp]

theorem run_counters (cs : List Nat) (s s' : St) (h : run p s cs = some s') :
    s'.scripts = (cs.filterMap p.scriptOf).reverse ++ s.scripts ∧
    s'.scripts.length = s.scripts.length + cs.length ∧
    s'.punct = s.punct + cs.countP (fun c => p.isPunct c) ∧
    s'.spaces = s.spaces + cs.countP (fun c => p.isSpace c) := by
  induction cs generalizing s with
  | nil => cases h; simp
  | cons c cs ih =>
    obtain ⟨s1, hs, h⟩ := (run_cons_eq_some ..).mp h
    obtain ⟨_, sc, hsc, _, rfl⟩ := (stepCp_eq_some_iff ..).mp hs
    obtain ⟨h1, h2, h3, h4⟩ := ih _ h
    dsimp only at h1 h2 h3 h4
    refine ⟨?_, ?_, ?_, ?_⟩
    · rw [h1, List.filterMap_cons, hsc, List.reverse_cons, List.append_assoc]; rfl
    · rw [h2, List.length_cons, List.length_cons, Nat.add_right_comm, Nat.add_assoc]
    · rw [h3, List.countP_cons, Nat.add_right_comm, Nat.add_assoc]
    · rw [h4, List.countP_cons, Nat.add_right_comm, Nat.add_assoc]

theorem noLongRun_replicate (a k : Nat) (h : p.run ≤ k → 2 ≤ k → p.isSpace a = true) :
    NoLongRun p (List.replicate k a) := by
  intro c n hsp h2 hrun hin
  have hlen := hin.length_le
  rw [List.length_replicate, List.length_replicate] at hlen
  have hc : c = a := List.eq_of_mem_replicate
    (hin.mem (List.mem_replicate.mpr ⟨Nat.ne_of_gt (Nat.zero_lt_of_lt h2), rfl⟩))
  rw [← hc, hsp] at h
  cases h (Nat.le_trans hrun hlen) (Nat.le_trans h2 hlen)

theorem noLongRun_of_infix {l1 l2 : List Nat} (hi : l1 <:+: l2) (h : NoLongRun p l2) : NoLongRun p l1 :=
  fun c n hsp h2 hrun hin => h c n hsp h2 hrun (hin.trans hi)

theorem noLongRun_of_prefix (p : Params) (l1 l2 : List Nat) (h : NoLongRun p (l1 ++ l2)) :
    NoLongRun p l1 :=
  noLongRun_of_infix p (List.prefix_append ..).isInfix h

/-- a run cannot straddle the boundary between a block of `a` and a different character -/
theorem noLongRun_block_append (a k c : Nat) (cs : List Nat) (hne : a ≠ c)
    (h1 : NoLongRun p (List.replicate k a)) (h2 : NoLongRun p (c :: cs)) :
    NoLongRun p (List.replicate k a ++ c :: cs) := by
  intro x n hsp hn2 hrun hin
  rcases List.infix_append_iff_ne_nil.mp hin with h | h | ⟨u, v, hu, hv, huv, hsu, hpv⟩
  · exact h1 x n hsp hn2 hrun h
  · exact h2 x n hsp hn2 hrun h
  · -- a non-empty suffix `u` of the block followed by a non-empty prefix `v` of `c :: cs`, all equal to `x`
    obtain ⟨y, hy⟩ := List.exists_mem_of_ne_nil u hu
    have hx : ∀ z ∈ u ++ v, z = x := fun z hz => List.eq_of_mem_replicate (huv ▸ hz)
    cases v with
    | nil => exact hv rfl
    | cons z v =>
      obtain ⟨t, ht⟩ := hpv
      cases ht
      exact hne ((List.eq_of_mem_replicate (hsu.subset hy)).symm.trans
        ((hx y (List.mem_append_left _ hy)).trans (hx c (by simp)).symm))

/-- the registers `(prev, prevRun) = (a, k)` stand for the virtual prefix `replicate k a`; the initial `(0, 0)` is
    never continued because NUL is rejected as a control character -/
structure Inv (p : Params) (a k : Nat) : Prop where
  ctrl : k = 0 → isCtrl a = true
  block : NoLongRun p (List.replicate k a)

theorem inv_init : Inv p init.prev init.prevRun :=
  ⟨fun _ => rfl, noLongRun_replicate p _ _ fun _ h => absurd h (by decide)⟩

/-- the registers after a step that passed `stepCp`'s run test `hrun`; nothing is asked of the registers before -/
theorem inv_step {a k c : Nat} (hrun : a = c → p.run ≤ k + 1 → p.isSpace c = true) :
    Inv p c (if a = c then k + 1 else 1) := by
  refine ⟨fun h => by split at h <;> omega, noLongRun_replicate p _ _ fun hr h2 => ?_⟩
  by_cases hp : a = c
  · rw [if_pos hp] at hr; exact hrun hp hr
  · rw [if_neg hp] at h2; omega

/-- `c` behind the block `replicate k a`: it lengthens the block if `a = c`, and then the run test is what `NoLongRun` asks
    of the longer block; else it starts a block of its own, and no run straddles the two -/
theorem noLongRun_block_cons {a k c : Nat} {cs : List Nat} (hI : Inv p a k) (hc : isCtrl c = false) :
    (a = c → p.run ≤ k + 1 → p.isSpace c = true) ∧ NoLongRun p (List.replicate (if a = c then k + 1 else 1) c ++ cs) ↔
      NoLongRun p (List.replicate k a ++ c :: cs) := by
  by_cases hp : a = c
  · subst hp
    have hk : k ≠ 0 := fun h0 => Bool.false_ne_true (hc.symm.trans (hI.ctrl h0))
    rw [if_pos rfl, show List.replicate k a ++ a :: cs = List.replicate (k + 1) a ++ cs by
      rw [List.replicate_succ', List.append_assoc]; rfl]
    refine ⟨And.right, fun h => ⟨fun _ hr => ?_, h⟩⟩
    cases hsp : p.isSpace a
    · exact absurd (List.prefix_append ..).isInfix (h a _ hsp (Nat.succ_le_succ (Nat.pos_of_ne_zero hk)) hr)
    · rfl
  · rw [if_neg hp]
    exact ⟨fun h => noLongRun_block_append p _ _ _ _ hp hI.block h.2,
      fun h => ⟨fun h' => absurd h' hp, noLongRun_of_infix p (List.suffix_append ..).isInfix h⟩⟩

theorem run_eq_some_iff (cs : List Nat) (s : St) (hI : Inv p s.prev s.prevRun) :
    (∃ s', run p s cs = some s') ↔
      (∀ c ∈ cs, isCtrl c = false) ∧ (∀ c ∈ cs, (p.scriptOf c).isSome) ∧
      NoLongRun p (List.replicate s.prevRun s.prev ++ cs) := by
  induction cs generalizing s with
  | nil => simpa [run] using hI.block
  | cons c cs ih =>
    rw [List.forall_mem_cons, List.forall_mem_cons]
    constructor
    · rintro ⟨s'', h⟩
      obtain ⟨s', hs, hr⟩ := (run_cons_eq_some ..).mp h
      obtain ⟨hc, sc, hsc, hrun, rfl⟩ := (stepCp_eq_some_iff ..).mp hs
      obtain ⟨h1, h2, h3⟩ := (ih _ (inv_step p hrun)).mp ⟨s'', hr⟩
      exact ⟨⟨hc, h1⟩, ⟨hsc ▸ rfl, h2⟩, (noLongRun_block_cons p hI hc).mp ⟨hrun, h3⟩⟩
    · rintro ⟨⟨hc, h1⟩, ⟨hs, h2⟩, h3⟩
      obtain ⟨sc, hsc⟩ := Option.isSome_iff_exists.mp hs
      obtain ⟨hrun, h3⟩ := (noLongRun_block_cons p hI hc).mpr h3
      obtain ⟨s'', hr⟩ := (ih ⟨_, _, _, c, _⟩ (inv_step p hrun)).mpr ⟨h1, h2, h3⟩
      exact ⟨s'', (run_cons_eq_some ..).mpr ⟨_, (stepCp_eq_some_iff ..).mpr ⟨hc, sc, hsc, hrun, rfl⟩, hr⟩⟩

end PV.Lemmas.Cleaning
