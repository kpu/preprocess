import PV.Lemmas.Table.Insert
/-
C13, `double` keeps `Good` (for the doubled ring) and the stored entries: a re-inserted key lands no further
than its old slot, or the slot `n` above it.
-/
namespace PV.Lemmas.Table
open PV.Table

theorem mod_two_mul (k n : Nat) : k % (2 * n) = k % n ∨ k % (2 * n) = k % n + n := by
  rw [Nat.mul_comm, Nat.mod_mul]
  rcases Nat.mod_two_eq_zero_or_one (k / n) with h | h <;> simp [h]

theorem shl_or_one (a : Nat) : (a <<< 1) ||| 1 = 2 * a + 1 := by
  rw [← Nat.shiftLeft_add_eq_or_of_lt (by decide), Nat.shiftLeft_eq, Nat.pow_one, Nat.mul_comm]

/-- Phase 1 of `double` empties the slots from `i` up to the first empty slot `r` (if there is one below `n`) and collects their
    entries in `L`: the occupied slots of the result lie outside `[i, r)` and are unchanged, and nothing is lost. -/
theorem rollOver_spec (n fuel i : Nat) (s : Array Entry) (acc : List Entry) :
    i ≤ n → n < i + fuel →
    ∃ r s' L, rollOver s n fuel i acc = (s', L) ∧ i ≤ r ∧ s'.size = s.size ∧
      (∀ x, i ≤ x → x < n → (s.getD x (0, 0)).1 = 0 → (s.getD r (0, 0)).1 = 0) ∧
      (∀ x, (s'.getD x (0, 0)).1 ≠ 0 →
        (x < i ∨ r ≤ x) ∧ (s'.getD x (0, 0)).1 = (s.getD x (0, 0)).1) ∧
      ∀ m, n ≤ m → (acc.reverse ++ ents s m).Perm (L ++ ents s' m) := by
  fun_induction rollOver s n fuel i acc with
  | case1 s i acc => exact fun hin hf => absurd hf (Nat.not_lt_of_le hin)
  | case2 s fuel i acc hb ih =>
    intro hin hf
    have h := (Bool.and_eq_true_iff.1 hb).imp bne_iff_ne.1 bne_iff_ne.1
    have hi : i < s.size := Nat.lt_of_not_le fun hge => h.2 (by rw [getD_ge s i hge])
    obtain ⟨r, s', L, heq, hir, hsz, hfirst, hsub, hperm⟩ :=
      ih (Nat.lt_of_le_of_ne hin h.1) (Nat.succ_add_eq_add_succ i fuel ▸ hf)
    refine ⟨r, s', L, heq, Nat.le_of_succ_le hir, by rw [hsz, Array.size_setIfInBounds],
      fun x hx hxn hx0 => ?_, fun x hne => ?_, fun m hm => ?_⟩
    · have hxi : x ≠ i := fun hxi => h.2 (hxi ▸ hx0)
      rw [← getD_set_ne s _ hxi] at hx0
      rw [← getD_set_ne s _ (Nat.ne_of_gt hir)]
      exact hfirst x (Nat.lt_of_le_of_ne hx hxi.symm) hxn hx0
    · obtain ⟨h1, h2⟩ := hsub x hne
      have hxi : x ≠ i := fun hxi => hne (by rw [h2, hxi, getD_set_self _ hi])
      rw [getD_set_ne s _ hxi] at h2
      exact ⟨by omega, h2⟩
    · refine .trans ?_ (hperm m hm)
      rw [List.reverse_cons, List.append_assoc]
      exact .append_left _ (ents_update (by omega) (fun x hx => (getD_set_ne s _ hx).symm)
        (by rw [getD_set_self _ hi]) h.2)
  | case3 s fuel i acc h =>
    exact fun _ _ => ⟨i, s, _, rfl, Nat.le_refl _, rfl, fun x hx hxn _ => Classical.not_not.1 fun h2 =>
        h (Bool.and_eq_true_iff.2 ⟨bne_iff_ne.2 (Nat.ne_of_lt (Nat.lt_of_le_of_lt hx hxn)), bne_iff_ne.2 h2⟩),
      fun x _ => ⟨Nat.lt_or_ge x i, rfl⟩, fun m _ => .refl _⟩

/-- Phase 2 of `double`: the loop invariant of `reinsertAll` at index `i` (old size `n`, ring size `2n`).
    `unproc`: a key still in a lower slot `j ≥ i` has not moved and its old ideal slot is at or before `j`.
    `placed`: the other entries (lower slots below `i`, the upper half) have a closed path for the new ring that
    does not wrap.  `upper`: only the upper slots below `i + n` are taken. -/
structure P2 (n i : Nat) (t : Table) : Prop where
  size : t.slots.size = 2 * n
  wf : WF t
  unproc : ∀ j, i ≤ j → j < n → t.key j ≠ 0 → t.key j % n ≤ j
  placed : ∀ j, j < 2 * n → (j < i ∨ n ≤ j) → t.key j ≠ 0 →
      t.key j % (2 * n) ≤ j ∧ (n ≤ j → n ≤ t.key j % (2 * n)) ∧
        ∀ x, t.key j % (2 * n) ≤ x → x < j → t.key x ≠ 0
  upper : ∀ u, n ≤ u → u < 2 * n → t.key u ≠ 0 → u < i + n
  distinct : Distinct t.key (2 * n)

theorem P2.skip {n i : Nat} {t : Table} (h : P2 n i t) (h0 : t.key i = 0) : P2 n (i + 1) t :=
  { h with
    unproc := fun j hj => h.unproc j (Nat.le_of_succ_le hj)
    placed := fun j hj hreg hne =>
      h.placed j hj (by have : j ≠ i := fun hji => hne (hji ▸ h0); omega) hne
    upper := fun u hu hu2 hne => Nat.succ_add i n ▸ Nat.lt_succ_of_lt (h.upper u hu hu2 hne) }

/-- the key of slot `i` moves to slot `l`, where the walk over occupied slots from its new ideal slot
    stops when slot `i` counts as empty -/
theorem P2.move {n i l : Nat} {t t' : Table} (h : P2 n i t) (hi : i < n) (hk : t.key i ≠ 0)
    (hsz : t'.slots.size = 2 * n) (hwf : WF t') (hd : Distinct t'.key (2 * n))
    (hl : t'.key l = t.key i) (hi0 : l ≠ i → t'.key i = 0)
    (ho : ∀ x, x ≠ l → x ≠ i → t'.key x = t.key x)
    (hwalk : ∀ x < 2 * n, between (t.key i % (2 * n)) x l → x ≠ i ∧ t.key x ≠ 0) :
    P2 n (i + 1) t' := by
  have hin : i + n < 2 * n := by omega
  have hup : t.key (i + n) = 0 := Classical.not_not.1 fun hne =>
    Nat.lt_irrefl _ (h.upper (i + n) (Nat.le_add_left _ _) hin hne)
  -- the new ideal slot is at or below `i`, or in the upper half at or below `i + n`, and the walk passes
  -- neither `i` nor `i + n`
  have hland : (t.key i % (2 * n) ≤ l ∧ l ≤ i) ∨
      (n ≤ t.key i % (2 * n) ∧ t.key i % (2 * n) ≤ l ∧ l ≤ i + n) := by
    have h4 := h.unproc i (Nat.le_refl _) hi hk
    rcases mod_two_mul (t.key i) n with h3 | h3
    · exact .inl (not_between (h3 ▸ h4) fun hb =>
        (hwalk i (Nat.lt_of_le_of_lt (Nat.le_add_right i n) hin) hb).1 rfl)
    · exact .inr ⟨h3 ▸ Nat.le_add_left n _,
        not_between (h3 ▸ Nat.add_le_add_right h4 n) fun hb => (hwalk (i + n) hin hb).2 hup⟩
  refine ⟨hsz, hwf, fun j hj hjn hne => ?_, fun j hj hreg hne => ?_, fun u hu hu2 hne => ?_, hd⟩
  · have hjl : j ≠ l := by omega
    rw [ho j hjl (Nat.ne_of_gt hj)] at hne ⊢
    exact h.unproc j (Nat.le_of_succ_le hj) hjn hne
  · by_cases hjl : j = l
    · subst hjl
      rw [hl]
      refine ⟨hland.elim And.left (·.2.1), by omega, fun x hx hxj => ?_⟩
      have := hwalk x (Nat.lt_trans hxj hj)
        ((between_of_le (Nat.le_trans hx (Nat.le_of_lt hxj))).2 ⟨hx, hxj⟩)
      rw [ho x (Nat.ne_of_lt hxj) this.1]
      exact this.2
    · have hji : j ≠ i := fun hji => hne (hji ▸ hi0 (hji ▸ Ne.symm hjl))
      rw [ho j hjl hji] at hne ⊢
      obtain ⟨p1, p2, p3⟩ := h.placed j hj (by omega) hne
      refine ⟨p1, p2, fun x hx hxj => ?_⟩
      by_cases hxl : x = l
      · rw [hxl, hl]; exact hk
      · have hxi : x ≠ i := hreg.elim
          (fun h1 => Nat.ne_of_lt (Nat.lt_of_lt_of_le hxj (Nat.le_of_lt_succ h1)))
          fun h1 => Nat.ne_of_gt (Nat.lt_of_lt_of_le hi (Nat.le_trans (p2 h1) hx))
        rw [ho x hxl hxi]
        exact p3 x hx hxj
  · by_cases hul : u = l
    · omega
    · rw [ho u hul (Nat.ne_of_gt (Nat.lt_of_lt_of_le hi hu))] at hne
      exact Nat.succ_add i n ▸ Nat.lt_succ_of_lt (h.upper u hu hu2 hne)

theorem reinsert_step {n i : Nat} {t : Table} (h : P2 n i t) (hi : i < n) (hk : t.key i ≠ 0) :
    ∃ t', uncheckedInsert { t with slots := t.slots.setIfInBounds i (0, (t.slots.getD i (0, 0)).2) }
        (t.slots.getD i (0, 0)) = some t' ∧
      P2 n (i + 1) t' ∧ (ents t'.slots (2 * n)).Perm (ents t.slots (2 * n)) ∧
      t'.entries = t.entries := by
  have hsz := h.size
  have hit : i < t.slots.size := by omega
  generalize he : t.slots.getD i (0, 0) = e
  have hek : e.1 = t.key i := he ▸ rfl
  -- `tc`: the table with slot `i` emptied
  generalize hc : ({ t with slots := t.slots.setIfInBounds i (0, e.2) } : Table) = tc
  have hcs : tc.slots = t.slots.setIfInBounds i (0, e.2) := hc ▸ rfl
  have hcw : WF tc := hc ▸ h.wf.set i _
  have hcsz : tc.slots.size = 2 * n := hc ▸ (size_set t i _).trans hsz
  have hci : tc.key i = 0 := hc ▸ key_set_self (t := t) (0, e.2) hit
  have hco : ∀ x, x ≠ i → tc.key x = t.key x := fun x hx => hc ▸ key_set_ne t (0, e.2) hx
  obtain ⟨l, hl, hl0, hwalk, hu⟩ := uncheckedInsert_spec hcw ⟨i, hcsz ▸ hsz ▸ hit, hci⟩ e
  have hkl := key_set_self e hl
  have hko := fun x (hx : x ≠ l) => key_set_ne tc e hx
  rw [hcsz] at hwalk
  refine ⟨_, hu, ?_, ?_, hc ▸ rfl⟩
  · refine h.move hi hk ((size_set tc l e).trans hcsz) (hcw.set l e)
      ((h.distinct.mono fun x hx hne => ⟨hx, hco x fun hxi => hne (hxi ▸ hci)⟩).fill hkl hko
        fun x hx hxe => ?_) (hkl.trans hek) (fun hli => by rw [hko i hli.symm, hci])
      (fun x hxl hxi => by rw [hko x hxl, hco x hxi]) fun x hx hb => ?_
    · have hxi : x ≠ i := fun hxi => hk (by rw [← hek, ← hxe, hxi, hci])
      rw [hco x hxi, hek] at hxe
      exact hxi (h.distinct x i hx (hsz ▸ hit) (hxe ▸ hk) hxe)
    · have := hwalk x hx (hek ▸ hb)
      have hxi : x ≠ i := fun hxi => this (hxi ▸ hci)
      exact ⟨hxi, hco x hxi ▸ this⟩
  · have p1 := ents_update (s := tc.slots) (s' := t.slots) (hsz ▸ hit)
      (fun x hx => by rw [hcs, getD_set_ne _ _ hx]) hci hk
    rw [he] at p1
    exact (ents_set hl (hcsz ▸ hl) hl0 (hek ▸ hk)).trans p1.symm

theorem reinsertAll_spec (n : Nat) : ∀ (fuel i : Nat) (t : Table),
    i ≤ n → n < i + fuel → P2 n i t →
    ∃ t', reinsertAll t n fuel i = some t' ∧ P2 n n t' ∧
      (ents t'.slots (2 * n)).Perm (ents t.slots (2 * n)) ∧ t'.entries = t.entries := by
  intro fuel
  induction fuel with
  | zero => intro i t hin hf; exact absurd hf (Nat.not_lt_of_le hin)
  | succ fuel ih =>
    intro i t hin hf hp
    simp only [reinsertAll]
    by_cases hi : i = n
    · subst hi
      exact ⟨t, by simp, hp, .refl _, rfl⟩
    rw [if_neg (by simpa using hi)]
    have hin' : i < n := Nat.lt_of_le_of_ne hin hi
    by_cases hk : (t.slots.getD i (0, 0)).1 = 0
    · rw [if_neg fun h' => bne_iff_ne.1 h' hk]
      exact ih (i + 1) t hin' (Nat.succ_add_eq_add_succ i fuel ▸ hf) (hp.skip hk)
    · obtain ⟨t1, h1, hp1, hperm1, he1⟩ := reinsert_step hp hin' hk
      obtain ⟨t', h', hp', hperm', he'⟩ :=
        ih (i + 1) t1 hin' (Nat.succ_add_eq_add_succ i fuel ▸ hf) hp1
      rw [if_pos (bne_iff_ne.2 hk), h1]
      exact ⟨t', h', hp', hperm'.trans hperm1, he'.trans he1⟩

/-- after phase 1 (the slots before the empty slot `r` emptied) no key of the lower half wraps
    round -/
theorem P2.init {t t1 : Table} {n r : Nat} (hg : Good t n) (hsz1 : t1.slots.size = 2 * n)
    (hm : t1.mask = (t.mask <<< 1) ||| 1) (hr0 : t.key r = 0)
    (hsub : ∀ x, t1.key x ≠ 0 → r ≤ x ∧ t1.key x = t.key x) : P2 n 0 t1 := by
  have hsz := hg.size
  have hlt : ∀ x, t1.key x ≠ 0 → x < n := fun x hne =>
    Nat.lt_of_not_le fun hge => hne ((hsub x hne).2.trans (key_ge t x (hsz ▸ hge)))
  refine ⟨hsz1, ?_, fun j _ hjn hne => ?_, fun j hj hreg hne => ?_, fun u hu _ hne => ?_,
    hg.distinct.mono fun x _ hne => ⟨hlt x hne, (hsub x hne).2⟩⟩
  · obtain ⟨h1, m, hm2⟩ := hg.wf
    unfold WF
    rw [hm, shl_or_one, hsz1]
    exact ⟨by omega, m + 1, by rw [Nat.pow_succ, ← hm2, hsz, Nat.mul_comm]⟩
  · obtain ⟨hrj, hjk⟩ := hsub j hne
    rw [hjk] at hne ⊢
    have hr : r < j := Nat.lt_of_le_of_ne hrj fun h => hne (h ▸ hr0)
    -- a path of `j` that wraps would pass the empty slot `r`
    exact Nat.le_of_not_lt fun hw =>
      hg.closed j hjn hne r (Nat.lt_trans hr hjn) ((between_of_gt hw).2 (.inr hr)) hr0
  · have := hlt j hne; omega
  · exact absurd (hlt u hne) (Nat.not_lt_of_le hu)

theorem P2.good {n : Nat} {t : Table} (h : P2 n n t) : Good t (2 * n) := by
  refine ⟨h.size, h.wf, h.distinct, fun j hj hne x hx hb => ?_⟩
  obtain ⟨p1, -, p3⟩ := h.placed j hj (by omega) hne
  obtain ⟨h1, h2⟩ := (between_of_le p1).1 hb
  exact p3 x h1 h2

theorem double_inv {t : Table} {n : Nat} (hg : Good t n) (hc : cnt t.key n < n) :
    ∃ t', double t = some t' ∧ Good t' (2 * n) ∧ (ents t'.slots (2 * n)).Perm (ents t.slots n) ∧
      t'.entries = t.entries := by
  have hsz := hg.size
  obtain ⟨r, s1, L, hroll, -, hs1, hfirst, hsub, hperm⟩ :=
    rollOver_spec n (n + 1) 0 (t.slots ++ Array.replicate n (0, 0)) [] (Nat.zero_le _) (by omega)
  simp only [getD_append_zero] at hfirst hsub
  obtain ⟨x, hx, hx0⟩ := exists_empty _ _ hc
  have hperm := hperm (2 * n) (by omega)
  rw [List.reverse_nil, List.nil_append, ents_congr fun x _ => getD_append_zero t.slots n x,
    ents_ge _ (by omega), hsz] at hperm
  have hp0 : P2 n 0 { t with slots := s1, mask := (t.mask <<< 1) ||| 1 } :=
    .init hg (by rw [hs1, Array.size_append, Array.size_replicate]; omega) rfl
      (hfirst x (Nat.zero_le _) hx hx0) fun x hne => (hsub x hne).imp_left (·.resolve_left nofun)
  obtain ⟨t2, h2, hp2, hperm2, he2⟩ := reinsertAll_spec n (n + 1) 0 _ (Nat.zero_le _) (by omega) hp0
  have hp : (L ++ ents t2.slots (2 * n)).Perm (ents t.slots n) :=
    (hperm2.append_left L).trans hperm.symm
  obtain ⟨t3, h3, hg3, hperm3, he3⟩ := insertList_spec L hp2.good
    (by rw [hp.length_eq, length_ents]; omega)
    (hp.symm.pairwise (hg.distinct.pairwise n (Nat.le_refl n)) Ne.symm)
    fun e he => (mem_ents.1 (hp.subset (List.mem_append_left _ he))).1
  refine ⟨t3, ?_, hg3, hperm3.trans hp, he3.trans he2⟩
  simp only [double, Table.buckets, hsz, hroll, h2, h3]

end PV.Lemmas.Table
