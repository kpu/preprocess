import PV.Model.Table
import PV.Spec.Map
/-
C13, one bucket array of fixed size.  The structural facts are about the key function `t.key : Nat → Nat` and a
ring size `N`; `ents` lists the stored entries, and an operation is described by what it does to that list up
to permutation.
-/
namespace PV.Lemmas.Table
open PV.Table

theorem getD_set (s : Array Entry) (i j : Nat) (e : Entry) :
    (s.setIfInBounds i e).getD j (0, 0) = if i = j ∧ i < s.size then e else s.getD j (0, 0) := by
  simp only [Array.getD_eq_getD_getElem?, Array.getElem?_setIfInBounds]
  by_cases h : i = j
  · subst h
    by_cases h2 : i < s.size
    · simp [h2]
    · simp [h2]
  · simp [h]

theorem getD_set_self {s : Array Entry} {i : Nat} (e : Entry) (h : i < s.size) :
    (s.setIfInBounds i e).getD i (0, 0) = e := by
  rw [getD_set, if_pos ⟨rfl, h⟩]

theorem getD_set_ne (s : Array Entry) {i j : Nat} (e : Entry) (h : j ≠ i) :
    (s.setIfInBounds i e).getD j (0, 0) = s.getD j (0, 0) := by
  rw [getD_set, if_neg fun h' => h h'.1.symm]

theorem getD_ge (s : Array Entry) (j : Nat) (h : s.size ≤ j) : s.getD j (0, 0) = (0, 0) := by
  simp [Array.getD_eq_getD_getElem?, Array.getElem?_eq_none h]

theorem getD_append_zero (s : Array Entry) (n j : Nat) :
    (s ++ Array.replicate n (0, 0)).getD j (0, 0) = s.getD j (0, 0) := by
  rw [Array.getD_eq_getD_getElem?, Array.getD_eq_getD_getElem?, Array.getElem?_append]
  split
  · rfl
  · next h =>
    rw [Array.getElem?_replicate, Array.getElem?_eq_none (Nat.le_of_not_lt h)]
    split <;> rfl

theorem size_set (t : Table) (i : Nat) (e : Entry) :
    ({ t with slots := t.slots.setIfInBounds i e } : Table).slots.size = t.slots.size :=
  Array.size_setIfInBounds ..

theorem key_set (t : Table) (i : Nat) (e : Entry) (x : Nat) :
    Table.key { t with slots := t.slots.setIfInBounds i e } x
      = if i = x ∧ i < t.slots.size then e.1 else t.key x := by
  unfold Table.key
  rw [getD_set, apply_ite Prod.fst]

theorem key_set_self {t : Table} {i : Nat} (e : Entry) (h : i < t.slots.size) :
    Table.key { t with slots := t.slots.setIfInBounds i e } i = e.1 := by
  rw [key_set, if_pos ⟨rfl, h⟩]

theorem key_set_ne (t : Table) {i x : Nat} (e : Entry) (h : x ≠ i) :
    Table.key { t with slots := t.slots.setIfInBounds i e } x = t.key x := by
  rw [key_set, if_neg fun h' => h h'.1.symm]

theorem key_ge (t : Table) (x : Nat) (h : t.slots.size ≤ x) : t.key x = 0 := by
  unfold Table.key; rw [getD_ge _ _ h]

-- `x` lies on the cyclic walk `a, a+1, …` strictly before `j`
def between (a x j : Nat) : Prop :=
  (a ≤ j ∧ a ≤ x ∧ x < j) ∨ (j < a ∧ (a ≤ x ∨ x < j))

-- the walk from `a` to `j` does not wrap
theorem between_of_le {a x j : Nat} (h : a ≤ j) : between a x j ↔ a ≤ x ∧ x < j :=
  ⟨fun hb => hb.elim (·.2) fun hb => absurd h (Nat.not_le_of_lt hb.1), fun hb => .inl ⟨h, hb⟩⟩

-- it wraps
theorem between_of_gt {a x j : Nat} (h : j < a) : between a x j ↔ a ≤ x ∨ x < j :=
  ⟨fun hb => hb.elim (fun hb => absurd h (Nat.not_lt_of_le hb.1)) (·.2), fun hb => .inr ⟨h, hb⟩⟩

theorem between_self {a x : Nat} : ¬ between a x a := fun hb =>
  have h := (between_of_le (Nat.le_refl a)).1 hb
  Nat.not_le_of_lt h.2 h.1

-- of two slots one comes first on any walk
theorem between_total {a x j : Nat} (h : x ≠ j) : between a x j ∨ between a j x := by
  unfold between; omega

theorem between_succ {N i x j : Nat} (hi : i < N) (hx : x < N) (hj : j < N) (h : between i x j) :
    x = i ∨ between ((i + 1) % N) x j := by
  by_cases h1 : i + 1 < N
  · rw [Nat.mod_eq_of_lt h1]; unfold between at *; omega
  · rw [show i + 1 = N from Nat.le_antisymm hi (Nat.le_of_not_lt h1), Nat.mod_self]
    unfold between at *; omega

theorem not_between {a x l : Nat} (hax : a ≤ x) (h : ¬ between a x l) : a ≤ l ∧ l ≤ x :=
  have hal : a ≤ l := Nat.le_of_not_lt fun hla => h ((between_of_gt hla).2 (.inl hax))
  ⟨hal, Nat.le_of_not_lt fun hxl => h ((between_of_le hal).2 ⟨hax, hxl⟩)⟩

theorem exists_dist {N i x : Nat} (hi : i < N) (hx : x < N) : ∃ d < N, (i + d) % N = x := by
  refine ⟨(x + N - i) % N, Nat.mod_lt _ (Nat.zero_lt_of_lt hi), ?_⟩
  rw [Nat.add_mod_mod, Nat.add_sub_cancel' (Nat.le_trans (Nat.le_of_lt hi) (Nat.le_add_left N x)),
    Nat.add_mod_right, Nat.mod_eq_of_lt hx]

/-- the number of occupied slots below `m` (`f` is the key function; key 0 marks an empty slot) -/
def cnt (f : Nat → Nat) : Nat → Nat
  | 0 => 0
  | m + 1 => cnt f m + (if f m ≠ 0 then 1 else 0)

theorem cnt_le (f : Nat → Nat) (m : Nat) : cnt f m ≤ m := by
  induction m with
  | zero => exact Nat.le_refl 0
  | succ m ih => exact Nat.add_le_add ih (by split <;> decide)

theorem exists_empty (f : Nat → Nat) (m : Nat) (h : cnt f m < m) : ∃ x < m, f x = 0 := by
  induction m with
  | zero => exact absurd h (Nat.lt_irrefl 0)
  | succ m ih =>
    simp only [cnt] at h
    by_cases hm : f m = 0
    · exact ⟨m, Nat.lt_succ_self m, hm⟩
    · rw [if_pos hm] at h
      obtain ⟨x, hx, hx0⟩ := ih (Nat.lt_of_succ_lt_succ h)
      exact ⟨x, Nat.lt_succ_of_lt hx, hx0⟩

-- an emptied slot keeps its value (`rollOver` and `reinsertAll` write `(0, e.2)`): only the key says "empty"
def ents (s : Array Entry) : Nat → List Entry
  | 0 => []
  | m + 1 => if (s.getD m (0, 0)).1 = 0 then ents s m else s.getD m (0, 0) :: ents s m

theorem length_ents (t : Table) (m : Nat) : (ents t.slots m).length = cnt t.key m := by
  induction m with
  | zero => rfl
  | succ m ih =>
    show List.length (if (t.slots.getD m (0, 0)).1 = 0 then _ else _)
      = cnt t.key m + if (t.slots.getD m (0, 0)).1 ≠ 0 then 1 else 0
    by_cases hk : (t.slots.getD m (0, 0)).1 = 0
    · rw [if_pos hk, if_neg (not_not_intro hk), ih]; rfl
    · rw [if_neg hk, if_pos hk, List.length_cons, ih]

theorem cnt_perm {t t' : Table} {m m' : Nat} (hp : (ents t'.slots m').Perm (ents t.slots m)) :
    cnt t'.key m' = cnt t.key m := by
  rw [← length_ents, hp.length_eq, length_ents]

theorem mem_ents {s : Array Entry} {e : Entry} {m : Nat} :
    e ∈ ents s m ↔ e.1 ≠ 0 ∧ ∃ j < m, s.getD j (0, 0) = e := by
  induction m with
  | zero => simp [ents]
  | succ m ih =>
    rw [Nat.exists_lt_succ_right, ents]
    by_cases hm : (s.getD m (0, 0)).1 = 0
    · rw [if_pos hm, ih]
      exact and_congr_right fun h0 => ⟨.inl, fun h => h.resolve_right fun h => h0 (h ▸ hm)⟩
    · rw [if_neg hm, List.mem_cons, ih]
      exact ⟨fun h => h.elim (fun h => ⟨h ▸ hm, .inr h.symm⟩) fun h => ⟨h.1, .inl h.2⟩,
        fun h => h.2.elim (fun h' => .inr ⟨h.1, h'⟩) fun h' => .inl h'.symm⟩

theorem ents_congr {s s' : Array Entry} {m : Nat} (h : ∀ x < m, s'.getD x (0, 0) = s.getD x (0, 0)) :
    ents s' m = ents s m := by
  induction m with
  | zero => rfl
  | succ m ih => rw [ents, ents, h m (Nat.lt_succ_self m), ih fun x hx => h x (Nat.lt_succ_of_lt hx)]

theorem ents_ge (s : Array Entry) {m : Nat} (h : s.size ≤ m) : ents s m = ents s s.size := by
  induction m with
  | zero => rw [Nat.le_zero.1 h]
  | succ m ih =>
    by_cases hm : s.size = m + 1
    · rw [hm]
    · rw [ents, getD_ge s m (by omega), if_pos rfl, ih (by omega)]

/-- filling an empty slot adds its entry; read from right to left, emptying a slot removes it -/
theorem ents_update {s s' : Array Entry} {m l : Nat} (hl : l < m)
    (h : ∀ x, x ≠ l → s'.getD x (0, 0) = s.getD x (0, 0)) (h0 : (s.getD l (0, 0)).1 = 0)
    (h1 : (s'.getD l (0, 0)).1 ≠ 0) : (ents s' m).Perm (s'.getD l (0, 0) :: ents s m) := by
  induction m with
  | zero => omega
  | succ m ih =>
    rw [ents, ents]
    by_cases hm : l = m
    · subst hm
      rw [if_neg h1, if_pos h0, ents_congr fun x hx => h x (Nat.ne_of_lt hx)]
    · rw [h m (Ne.symm hm)]
      have := ih (Nat.lt_of_le_of_ne (Nat.le_of_lt_succ hl) hm)
      by_cases hk : (s.getD m (0, 0)).1 = 0
      · rwa [if_pos hk, if_pos hk]
      · rw [if_neg hk, if_neg hk]
        exact (this.cons _).trans (.swap ..)

theorem ents_set {s : Array Entry} {m l : Nat} {e : Entry} (hl : l < s.size) (hm : l < m)
    (h0 : (s.getD l (0, 0)).1 = 0) (he : e.1 ≠ 0) :
    (ents (s.setIfInBounds l e) m).Perm (e :: ents s m) := by
  have := ents_update hm (fun x hx => getD_set_ne s e hx) h0 (by rwa [getD_set_self e hl])
  rwa [getD_set_self e hl] at this

/-- no key is stored twice -/
def Distinct (f : Nat → Nat) (N : Nat) : Prop :=
  ∀ i j, i < N → j < N → f i ≠ 0 → f i = f j → i = j

/-- the invariant of linear probing: every slot on the walk from a key's ideal slot `f j % N` to the slot `j` that holds it is
    occupied, so a walk that starts at the ideal slot and stops at the first empty slot cannot miss a stored key -/
def PathClosed (f : Nat → Nat) (N : Nat) : Prop :=
  ∀ j, j < N → f j ≠ 0 → ∀ x, x < N → between (f j % N) x j → f x ≠ 0

/-- emptying slots (and widening the ring by empty slots) keeps the keys distinct -/
theorem Distinct.mono {f g : Nat → Nat} {N M : Nat} (hd : Distinct f N)
    (h : ∀ x < M, g x ≠ 0 → x < N ∧ g x = f x) : Distinct g M := by
  intro i j hi hj hne heq
  obtain ⟨hi', ei⟩ := h i hi hne
  obtain ⟨hj', ej⟩ := h j hj (heq ▸ hne)
  exact hd i j hi' hj' (ei ▸ hne) (ei ▸ ej ▸ heq)

theorem Distinct.fill {f g : Nat → Nat} {N l k : Nat} (hd : Distinct f N)
    (hgl : g l = k) (hg : ∀ x, x ≠ l → g x = f x) (hnew : ∀ x < N, f x ≠ k) : Distinct g N := by
  intro i j hi hj hne heq
  by_cases hil : i = l <;> by_cases hjl : j = l
  · omega
  · subst hil; rw [hgl, hg j hjl] at heq; exact absurd heq.symm (hnew j hj)
  · subst hjl; rw [hgl, hg i hil] at heq; exact absurd heq (hnew i hi)
  · rw [hg i hil] at hne heq; rw [hg j hjl] at heq; exact hd i j hi hj hne heq

theorem Distinct.pairwise {t : Table} {N : Nat} (hd : Distinct t.key N) :
    ∀ m ≤ N, (ents t.slots m).Pairwise (·.1 ≠ ·.1) := by
  intro m
  induction m with
  | zero => intro _; exact .nil
  | succ m ih =>
    intro hm
    rw [ents]
    by_cases hk : (t.slots.getD m (0, 0)).1 = 0
    · rw [if_pos hk]; exact ih (Nat.le_of_succ_le hm)
    · rw [if_neg hk]
      refine List.pairwise_cons.2 ⟨fun e he heq => ?_, ih (Nat.le_of_succ_le hm)⟩
      obtain ⟨-, j, hj, rfl⟩ := mem_ents.1 he
      exact Nat.ne_of_gt hj (hd m j hm (Nat.lt_of_lt_of_le hj (Nat.le_of_succ_le hm)) hk heq)

theorem PathClosed.fill {f g : Nat → Nat} {N l k : Nat} (hp : PathClosed f N)
    (hgl : g l = k) (hg : ∀ x, x ≠ l → g x = f x) (hfl : f l = 0)
    (hwalk : ∀ x < N, between (k % N) x l → f x ≠ 0) : PathClosed g N := by
  intro j hj hgj x hx hb
  have : f x ≠ 0 := by
    by_cases hjl : j = l
    · subst hjl
      rw [hgl] at hb
      exact hwalk x hx hb
    · rw [hg j hjl] at hgj hb
      exact hp j hj hgj x hx hb
  rwa [hg x fun hxl => this (hxl ▸ hfl)]

def WF (t : Table) : Prop := t.mask + 1 = t.slots.size ∧ ∃ m, t.slots.size = 2 ^ m

theorem WF.pos {t : Table} (h : WF t) : 0 < t.slots.size := by
  obtain ⟨_, m, hm⟩ := h; rw [hm]; exact Nat.pow_pos (by decide)

theorem WF.and_mask {t : Table} (h : WF t) (x : Nat) : x &&& t.mask = x % t.slots.size := by
  obtain ⟨h1, m, hm⟩ := h
  rw [Nat.eq_sub_of_add_eq (h1.trans hm), Nat.and_two_pow_sub_one_eq_mod, hm]

theorem WF.ideal {t : Table} (h : WF t) (k : Nat) : t.ideal k = k % t.slots.size := h.and_mask k

theorem WF.ideal_lt {t : Table} (h : WF t) (k : Nat) : t.ideal k < t.slots.size :=
  h.ideal k ▸ Nat.mod_lt _ h.pos

theorem WF.next {t : Table} (h : WF t) (i : Nat) : t.next i = (i + 1) % t.slots.size :=
  h.and_mask (i + 1)

theorem WF.set {t : Table} (h : WF t) (i : Nat) (e : Entry) :
    WF { t with slots := t.slots.setIfInBounds i e } := by
  unfold WF; rwa [size_set]

/-- `d`: a number of steps, within the fuel, after which the walk from `i` meets an empty slot or `k` -/
theorem probe_spec {t : Table} (hw : WF t) (k fuel i : Nat) : ∀ d, i < t.slots.size → d < fuel →
    (t.key ((i + d) % t.slots.size) = 0 ∨ t.key ((i + d) % t.slots.size) = k) →
    ∃ e < t.slots.size, (t.key e = 0 ∨ t.key e = k) ∧ probe t k fuel i = some (t.key e == k, e) ∧
      ∀ x < t.slots.size, between i x e → t.key x ≠ 0 ∧ t.key x ≠ k := by
  fun_induction probe t k fuel i with
  | case1 i => exact fun d _ h => absurd h (Nat.not_lt_zero d)
  | case2 fuel i got hk =>
    exact fun _ hi _ _ => ⟨i, hi, .inr (beq_iff_eq.1 hk), by rw [hk], fun x _ hb => absurd hb between_self⟩
  | case3 fuel i got hk h0 =>
    exact fun _ hi _ _ => ⟨i, hi, .inl (beq_iff_eq.1 h0), by rw [Bool.eq_false_iff.2 hk],
      fun x _ hb => absurd hb between_self⟩
  | case4 fuel i got hk h0 ih =>
    intro d hi hd hstop
    have hs : t.key i ≠ 0 ∧ t.key i ≠ k := ⟨mt beq_iff_eq.2 h0, mt beq_iff_eq.2 hk⟩
    cases d with
    | zero => rw [Nat.add_zero, Nat.mod_eq_of_lt hi] at hstop; exact absurd hstop (not_or.2 hs)
    | succ d =>
      rw [← Nat.add_assoc, Nat.add_right_comm, ← Nat.mod_add_mod, ← hw.next] at hstop
      obtain ⟨e, he, hstop', hp, hrun⟩ :=
        ih d (hw.next i ▸ Nat.mod_lt _ hw.pos) (Nat.lt_of_succ_lt_succ hd) hstop
      refine ⟨e, he, hstop', hp, fun x hx hb => ?_⟩
      rcases between_succ hi hx he hb with rfl | hb'
      · exact hs
      · exact hrun x hx (hw.next i ▸ hb')

theorem firstEmpty_eq_probe (t : Table) (fuel i : Nat) :
    firstEmpty t fuel i = (probe t 0 fuel i).map (·.2) := by
  fun_induction firstEmpty t fuel i with
  | case1 => rfl
  | case2 fuel i h => rw [probe, if_pos h]; rfl
  | case3 fuel i h ih => rw [probe, if_neg h, if_neg h, ih]

/-- with fuel `buckets` the walk reaches every slot -/
theorem probe_reach {t : Table} (hw : WF t) (k : Nat) {i x : Nat} (hi : i < t.slots.size)
    (hx : x < t.slots.size) (hstop : t.key x = 0 ∨ t.key x = k) :
    ∃ e < t.slots.size, (t.key e = 0 ∨ t.key e = k) ∧
      probe t k t.buckets i = some (t.key e == k, e) ∧
      ∀ x < t.slots.size, between i x e → t.key x ≠ 0 ∧ t.key x ≠ k := by
  obtain ⟨d, hd, rfl⟩ := exists_dist hi hx
  exact probe_spec hw k _ i d hi hd hstop

theorem uncheckedInsert_spec {t : Table} (hw : WF t) (hc : ∃ x < t.slots.size, t.key x = 0)
    (e : Entry) :
    ∃ l < t.slots.size, t.key l = 0 ∧
      (∀ x < t.slots.size, between (e.1 % t.slots.size) x l → t.key x ≠ 0) ∧
      uncheckedInsert t e = some { t with slots := t.slots.setIfInBounds l e } := by
  obtain ⟨x, hx, hx0⟩ := hc
  obtain ⟨l, hl, hl0, hp, hrun⟩ :=
    probe_reach hw 0 (hw.ideal_lt e.1) hx (Or.inl hx0)
  refine ⟨l, hl, hl0.elim id id, fun y hy hb => (hrun y hy (hw.ideal e.1 ▸ hb)).1, ?_⟩
  simp only [uncheckedInsert, firstEmpty_eq_probe, hp, Option.map_some]

structure Good (t : Table) (N : Nat) : Prop where
  size : t.slots.size = N
  wf : WF t
  distinct : Distinct t.key N
  closed : PathClosed t.key N

-- `Good` does not look at `entries` and `threshold`
theorem Good.congr {t t' : Table} {N : Nat} (hg : Good t N) (hs : t'.slots = t.slots)
    (hm : t'.mask = t.mask) : Good t' N := by
  cases t; cases t'; cases hs; cases hm
  exact ⟨hg.size, hg.wf, hg.distinct, hg.closed⟩

theorem Good.probe_cases {t : Table} {N k : Nat} (hg : Good t N) (hc : cnt t.key N < N) (hk : k ≠ 0) :
    (∃ j < N, t.key j = k ∧ probe t k t.buckets (t.ideal k) = some (true, j)) ∨
    ((∀ e ∈ ents t.slots N, e.1 ≠ k) ∧ ∃ l < N, t.key l = 0 ∧
      (∀ x < N, between (k % N) x l → t.key x ≠ 0) ∧
      probe t k t.buckets (t.ideal k) = some (false, l)) := by
  obtain ⟨rfl, hw, -, hcl⟩ := hg
  obtain ⟨x, hx, hx0⟩ := exists_empty _ _ hc
  obtain ⟨l, hl, hstop, hp, hrun⟩ := probe_reach hw k (hw.ideal_lt k) hx (Or.inl hx0)
  rw [hw.ideal] at hrun
  rcases hstop with h0 | hlk
  · refine .inr ⟨fun e he hek => ?_, l, hl, h0, fun y hy hb => (hrun y hy hb).1, ?_⟩
    · obtain ⟨-, j, hj, rfl⟩ := mem_ents.1 he
      change t.key j = k at hek
      -- `j` would be on the walk to the empty slot `l`, or `l` on the closed path of `j`
      rcases between_total (a := k % t.slots.size) fun h : j = l => hk (hek ▸ h ▸ h0) with hb | hb
      · exact (hrun j hj hb).2 hek
      · exact hcl j hj (hek ▸ hk) l hl (hek ▸ hb) h0
    · rw [hp, h0, beq_false_of_ne hk.symm]
  · exact .inl ⟨l, hl, hlk, by rw [hp, hlk, beq_self_eq_true]⟩

theorem Good.find_iff {t : Table} {N k : Nat} (hg : Good t N) (hc : cnt t.key N < N) (hk : k ≠ 0) :
    ∃ r, find t k = some r ∧ ∀ e, r = some e ↔ e.1 = k ∧ e ∈ ents t.slots N := by
  unfold find
  rcases hg.probe_cases hc hk with ⟨j, hj, rfl, hp⟩ | ⟨habs, l, -, -, -, hp⟩
  · rw [hp]
    refine ⟨_, rfl, fun e => ⟨fun h => ?_, fun ⟨h1, h2⟩ => ?_⟩⟩
    · obtain rfl := Option.some.inj h
      exact ⟨rfl, mem_ents.2 ⟨hk, j, hj, rfl⟩⟩
    · obtain ⟨-, j', hj', rfl⟩ := mem_ents.1 h2
      rw [hg.distinct j j' hj hj' hk h1.symm]
  · rw [hp]
    exact ⟨_, rfl, fun e => ⟨fun h => (nomatch h), fun ⟨h1, h2⟩ => absurd h1 (habs e h2)⟩⟩

theorem Good.fill {t : Table} {N l : Nat} {e : Entry} (hg : Good t N) (hl : l < N)
    (h0 : t.key l = 0) (hwalk : ∀ x < N, between (e.1 % N) x l → t.key x ≠ 0) (he : e.1 ≠ 0)
    (hnew : ∀ e' ∈ ents t.slots N, e'.1 ≠ e.1) :
    Good { t with slots := t.slots.setIfInBounds l e } N := by
  obtain ⟨rfl, hw, hd, hp⟩ := hg
  have hkl := key_set_self e hl
  have hk := fun x (hx : x ≠ l) => key_set_ne t e hx
  exact ⟨size_set t l e, hw.set l e,
    hd.fill hkl hk fun x hx hxe => hnew _ (mem_ents.2 ⟨fun h => he (hxe ▸ h), x, hx, rfl⟩) hxe,
    hp.fill hkl hk h0 hwalk⟩

theorem Good.insert {t : Table} {N : Nat} (hg : Good t N) (hc : cnt t.key N < N) {e : Entry}
    (he : e.1 ≠ 0) (hnew : ∀ e' ∈ ents t.slots N, e'.1 ≠ e.1) :
    ∃ t', uncheckedInsert t e = some t' ∧ Good t' N ∧ (ents t'.slots N).Perm (e :: ents t.slots N) ∧
      t'.entries = t.entries := by
  obtain rfl := hg.size
  obtain ⟨l, hl, hl0, hwalk, hu⟩ := uncheckedInsert_spec hg.wf (exists_empty _ _ hc) e
  exact ⟨_, hu, hg.fill hl hl0 hwalk he hnew, ents_set hl hl hl0 he, rfl⟩

theorem insertList_spec {N : Nat} : ∀ (L : List Entry) {t : Table}, Good t N →
    (L ++ ents t.slots N).length < N → (L ++ ents t.slots N).Pairwise (·.1 ≠ ·.1) →
    (∀ e ∈ L, e.1 ≠ 0) →
    ∃ t', insertList t L = some t' ∧ Good t' N ∧ (ents t'.slots N).Perm (L ++ ents t.slots N) ∧
      t'.entries = t.entries := by
  intro L
  induction L with
  | nil => intro t hg _ _ _; exact ⟨t, rfl, hg, .refl _, rfl⟩
  | cons e es ih =>
    intro t hg hlen hpw h0
    have he := h0 e List.mem_cons_self
    obtain ⟨t1, h1, hg1, hp1, he1⟩ := hg.insert
      (Nat.lt_of_le_of_lt (length_ents t N ▸ (List.sublist_append_right ..).length_le) hlen) he
      fun e' he' => Ne.symm ((List.pairwise_cons.1 hpw).1 e' (List.mem_append_right _ he'))
    have hp : (es ++ ents t1.slots N).Perm (e :: es ++ ents t.slots N) :=
      (hp1.append_left es).trans List.perm_middle
    obtain ⟨t2, h2, hg2, hp2, he2⟩ := ih hg1 (hp.length_eq ▸ hlen) (hp.symm.pairwise hpw Ne.symm)
      fun e' he' => h0 e' (List.mem_cons_of_mem _ he')
    exact ⟨t2, by simp only [PV.Table.insertList, h1, h2], hg2, hp2.trans hp, he2.trans he1⟩

end PV.Lemmas.Table
