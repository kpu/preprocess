import PV.Model.Docenc
import PV.Lemmas.Base64
import PV.Lemmas.Records
/-
docenc (C09): the round trip through `docenc -d | docenc`, and index selection: `sortIndices` sorts,
`uniqAdjacent` removes the duplicates of a sorted list, and the walk over a strictly increasing index list
selects exactly the documents whose number is listed.
-/
namespace PV.Lemmas.Docenc
open PV.Docenc PV.Spec.Records PV.Lemmas.Base64

theorem split_encoded (ds : List (List UInt8)) :
    splitRecords 10 true (unlines (ds.map PV.Base64.encode)) = ds.map PV.Base64.encode := by
  unfold unlines
  rw [Records.splitRecords_flatMap, List.map_map]
  · exact List.map_congr_left fun d _ => Records.stripOneCr_true _ fun hm => (encode_chars d _ hm).2 rfl
  · intro r hr hm
    obtain ⟨d, _, rfl⟩ := List.mem_map.mp hr
    exact (encode_chars d _ hm).1 rfl

theorem decodeLines_encoded (sep : UInt8) (ds : List (List UInt8)) :
    decodeLines sep (ds.map PV.Base64.encode) = some (ds.flatMap (· ++ [sep])) := by
  induction ds with
  | nil => rfl
  | cons d ds ih => simp only [List.map_cons, decodeLines, decode_encode, ih, Option.map_some, List.flatMap_cons]

theorem selectFrom_nil {α : Type} (ds : List α) (idx : Nat) : selectFrom idx [] ds = ds := by
  induction ds generalizing idx with
  | nil => rfl
  | cons d ds ih => rw [selectFrom, ih]

theorem selectArgs_nil {α : Type} (ds : List α) : selectArgs [] ds = ds := selectFrom_nil ds 0

theorem decode_encoded (nul : Bool) (ds : List (List UInt8)) :
    PV.Docenc.decode nul [] (unlines (ds.map PV.Base64.encode)) =
      some (ds.flatMap (· ++ [if nul then 0 else 10])) := by
  rw [PV.Docenc.decode, selectArgs_nil, split_encoded, decodeLines_encoded]

theorem docsNl_doc (ls : List (List UInt8)) (h : ∀ l ∈ ls, l ≠ [] ∧ (10 : UInt8) ∉ l) (rest cur : List UInt8) :
    docsNl (splitRecords 10 false (unlines ls ++ 10 :: rest)) cur =
      (cur ++ unlines ls) :: docsNl (splitRecords 10 false rest) [] := by
  induction ls generalizing cur with
  | nil => rw [show unlines [] = [] from rfl, List.append_nil]; rfl
  | cons l ls ih =>
    obtain ⟨hne, hnl⟩ := h l List.mem_cons_self
    have e : unlines (l :: ls) ++ 10 :: rest = l ++ 10 :: (unlines ls ++ 10 :: rest) := by simp [unlines]
    rw [e, Records.splitRecords_delim _ _ _ _ hnl, stripOneCr_false, docsNl,
      if_neg (by simpa using hne), ih fun l' hl' => h l' (List.mem_cons_of_mem _ hl')]
    simp [unlines]

theorem docsNl_docs (ds : List (List UInt8))
    (h : ∀ d ∈ ds, ∃ ls : List (List UInt8), (∀ l ∈ ls, l ≠ [] ∧ (10 : UInt8) ∉ l) ∧ d = unlines ls) :
    docsNl (splitRecords 10 false (ds.flatMap (· ++ [10]))) [] = ds := by
  induction ds with
  | nil => simp [splitRecords, splitGo, docsNl]
  | cons d ds ih =>
    obtain ⟨ls, hls, rfl⟩ := h _ List.mem_cons_self
    rw [List.flatMap_cons, List.append_assoc, List.singleton_append, docsNl_doc ls hls,
      ih fun d' hd' => h d' (List.mem_cons_of_mem _ hd'), List.nil_append]

/-- docenc's encoder reads its records with `strip_cr = false`.  With `true` a line ending in CR would lose it, and the
    two round trips below would be false. -/
theorem encodeStripCr : PV.Gen.docencEncodeStripCr = false := rfl

theorem encode_joined_nl (ds : List (List UInt8))
    (h : ∀ d ∈ ds, ∃ ls : List (List UInt8), (∀ l ∈ ls, l ≠ [] ∧ (10 : UInt8) ∉ l) ∧ d = unlines ls) :
    PV.Docenc.encode false [] (ds.flatMap (· ++ [10])) = unlines (ds.map PV.Base64.encode) := by
  simp only [PV.Docenc.encode, selectArgs_nil, Bool.false_eq_true, if_false]
  rw [encodeStripCr, docsNl_docs ds h]

theorem encode_joined_nul (ds : List (List UInt8)) (h : ∀ d ∈ ds, (0 : UInt8) ∉ d) :
    PV.Docenc.encode true [] (ds.flatMap (· ++ [0])) = unlines (ds.map PV.Base64.encode) := by
  simp only [PV.Docenc.encode, selectArgs_nil, if_true, docsNul]
  rw [encodeStripCr, Records.splitRecords_flatMap 0 false ds h,
    List.map_congr_left fun d _ => stripOneCr_false d, List.map_id']

/-- `ds` is what is left of `all` after `idx` documents; keeping `all` in the statement keeps the function under
    `filterMap` the same through the induction. -/
theorem selectFrom'_spec {α : Type} (all ds : List α) (idx : Nat) (ind : List Nat)
    (hd : all.drop idx = ds) (hgt : ∀ i ∈ ind, idx < i) (hs : ind.Pairwise (· < ·)) :
    selectFrom.selectFrom' idx ind ds = ind.filterMap (fun i => all[i - 1]?) := by
  induction ds generalizing idx ind with
  | nil =>
    have hlen := List.drop_eq_nil_iff.mp hd
    have : ind.filterMap (fun i => all[i - 1]?) = [] :=
      List.filterMap_eq_nil_iff.mpr fun i hi =>
        List.getElem?_eq_none (Nat.le_sub_one_of_lt (Nat.lt_of_le_of_lt hlen (hgt i hi)))
    rw [this]
    cases ind <;> rfl
  | cons d ds ih =>
    have hd' : all.drop (idx + 1) = ds := by rw [List.drop_add_one_eq_tail_drop, hd, List.tail_cons]
    cases ind with
    | nil => rfl
    | cons i rest =>
      obtain ⟨hrest, hs'⟩ := List.pairwise_cons.mp hs
      rw [selectFrom.selectFrom']
      by_cases hi : i = idx + 1
      · subst hi
        -- stopping early at the last index gives what the walk would give
        have stop : (if rest.isEmpty then [d] else d :: selectFrom.selectFrom' (idx + 1) rest ds) =
            d :: selectFrom.selectFrom' (idx + 1) rest ds := by
          cases rest with
          | nil => cases ds <;> rfl
          | cons => rfl
        simp only [bne_self_eq_false, Bool.false_eq_true, if_false, stop]
        rw [ih _ _ hd' hrest hs', List.filterMap_cons, Nat.add_sub_cancel, ← List.head?_drop, hd, List.head?_cons]
      · have hi' : idx + 1 < i := Nat.lt_of_le_of_ne (hgt i List.mem_cons_self) (Ne.symm hi)
        have hgt' : ∀ j ∈ i :: rest, idx + 1 < j := by
          intro j hj
          rcases List.mem_cons.mp hj with rfl | hj
          · exact hi'
          · exact Nat.lt_trans hi' (hrest j hj)
        simp only [bne_iff_ne, ne_eq, hi, not_false_eq_true, if_true]
        exact ih _ _ hd' hgt' hs

/-- with at least one index the two walks agree (`selectFrom` reads an empty list as "everything") -/
theorem selectFrom_eq {α : Type} (ds : List α) (idx : Nat) (ind : List Nat) (hne : ind ≠ []) :
    selectFrom idx ind ds = selectFrom.selectFrom' idx ind ds := by
  induction ds generalizing idx ind with
  | nil => cases ind <;> rfl
  | cons d ds ih =>
    cases ind with
    | nil => exact absurd rfl hne
    | cons i rest =>
      rw [selectFrom, selectFrom.selectFrom']
      split
      · exact ih _ _ (List.cons_ne_nil _ _)
      · rfl

theorem mem_insertSorted (i x : Nat) (l : List Nat) : x ∈ insertSorted i l ↔ x = i ∨ x ∈ l := by
  induction l with
  | nil => simp [insertSorted]
  | cons j js ih =>
    unfold insertSorted
    split
    · exact List.mem_cons
    · rw [List.mem_cons, ih, List.mem_cons, or_left_comm]

theorem insertSorted_sorted (i : Nat) (l : List Nat) (h : l.Pairwise (· ≤ ·)) :
    (insertSorted i l).Pairwise (· ≤ ·) := by
  induction l with
  | nil => simp [insertSorted]
  | cons j js ih =>
    obtain ⟨hj, hjs⟩ := List.pairwise_cons.1 h
    unfold insertSorted
    split
    · next hij =>
      refine List.pairwise_cons.2 ⟨fun b hb => ?_, h⟩
      rcases List.mem_cons.1 hb with rfl | hb
      · exact hij
      · exact Nat.le_trans hij (hj b hb)
    · refine List.pairwise_cons.2 ⟨fun b hb => ?_, ih hjs⟩
      rcases (mem_insertSorted i b js).1 hb with rfl | hb
      · omega
      · exact hj b hb

theorem mem_sortIndices (x : Nat) (args : List Nat) : x ∈ sortIndices args ↔ x ∈ args := by
  induction args with
  | nil => rfl
  | cons a as ih => rw [sortIndices, List.foldr_cons, mem_insertSorted, ← sortIndices, ih, List.mem_cons]

theorem sortIndices_sorted (args : List Nat) : (sortIndices args).Pairwise (· ≤ ·) := by
  induction args with
  | nil => exact List.Pairwise.nil
  | cons a as ih => exact insertSorted_sorted a _ ih

theorem mem_uniqAdjacent (x : Nat) (l : List Nat) : x ∈ uniqAdjacent l ↔ x ∈ l := by
  fun_induction uniqAdjacent l with
  | case1 | case2 => rfl
  | case3 a rest ih => rw [ih]; simp
  | case4 a b rest hab ih => rw [List.mem_cons, ih, List.mem_cons (a := x) (b := a)]

theorem uniqAdjacent_strict (l : List Nat) (h : l.Pairwise (· ≤ ·)) : (uniqAdjacent l).Pairwise (· < ·) := by
  fun_induction uniqAdjacent l with
  | case1 | case2 => simp
  | case3 a rest ih => exact ih (List.pairwise_cons.1 h).2
  | case4 a b rest hab ih =>
    obtain ⟨ha, hb⟩ := List.pairwise_cons.1 h
    refine List.pairwise_cons.2 ⟨fun c hc => ?_, ih hb⟩
    have h1 := ha b List.mem_cons_self
    have h2 : b ≤ c := by
      rcases List.mem_cons.1 ((mem_uniqAdjacent c _).1 hc) with rfl | hc
      · exact Nat.le_refl _
      · exact (List.pairwise_cons.1 hb).1 c hc
    omega

theorem mem_prepare (x : Nat) (args : List Nat) : x ∈ prepare args ↔ x ∈ args := by
  rw [prepare, mem_uniqAdjacent, mem_sortIndices]

theorem prepare_strict (args : List Nat) : (prepare args).Pairwise (· < ·) :=
  uniqAdjacent_strict _ (sortIndices_sorted args)

theorem prepare_ne_nil (args : List Nat) (hne : args ≠ []) : prepare args ≠ [] := by
  obtain ⟨a, ha⟩ := List.exists_mem_of_ne_nil args hne
  exact List.ne_nil_of_mem ((mem_prepare a args).2 ha)

theorem filterMap_congr {α β : Type} (f g : α → Option β) (l : List α) (h : ∀ x ∈ l, f x = g x) :
    l.filterMap f = l.filterMap g := by
  induction l with
  | nil => rfl
  | cons a l ih =>
    rw [List.filterMap_cons, List.filterMap_cons, h a List.mem_cons_self,
      ih fun x hx => h x (List.mem_cons_of_mem _ hx)]

theorem eq_of_strictSorted {l₁ l₂ : List Nat} (h₁ : l₁.Pairwise (· < ·)) (h₂ : l₂.Pairwise (· < ·))
    (h : ∀ a, a ∈ l₁ ↔ a ∈ l₂) : l₁ = l₂ :=
  List.Perm.eq_of_pairwise (le := (· < ·)) (fun _ _ _ _ hab hba => absurd hab (Nat.lt_asymm hba)) h₁ h₂
    ((List.perm_ext_iff_of_nodup (h₁.imp Nat.ne_of_lt) (h₂.imp Nat.ne_of_lt)).2 h)

theorem filterMap_index_eq {α : Type} (ind : List Nat) (ds : List α) (hpos : ∀ i ∈ ind, 0 < i)
    (hs : ind.Pairwise (· < ·)) :
    ind.filterMap (fun i => ds[i - 1]?) =
      ((List.range ds.length).filter (fun k => decide (k + 1 ∈ ind))).filterMap (fun k => ds[k]?) := by
  -- indices beyond the last document select nothing
  have hL : ind.filterMap (fun i => ds[i - 1]?) =
      (ind.filter (fun i => decide (i ≤ ds.length))).filterMap (fun i => ds[i - 1]?) := by
    rw [List.filterMap_filter]
    refine filterMap_congr _ _ _ fun i _ => ?_
    by_cases hle : i ≤ ds.length
    · rw [if_pos (decide_eq_true hle)]
    · rw [if_neg (mt of_decide_eq_true hle)]
      exact List.getElem?_eq_none (Nat.le_sub_one_of_lt (Nat.lt_of_not_le hle))
  -- the others are the listed members of `1..n`; both lists are increasing
  have hR : ind.filter (fun i => decide (i ≤ ds.length)) =
      ((List.range ds.length).filter (fun k => decide (k + 1 ∈ ind))).map (· + 1) := by
    refine eq_of_strictSorted (hs.filter _) ?_ fun a => ?_
    · rw [List.pairwise_map]
      exact (List.pairwise_lt_range.filter _).imp Nat.succ_lt_succ
    · simp only [List.mem_filter, List.mem_map, List.mem_range, decide_eq_true_eq]
      constructor
      · rintro ⟨ha, hle⟩
        obtain ⟨k, rfl⟩ := Nat.exists_eq_add_one_of_ne_zero (Nat.ne_of_gt (hpos a ha))
        exact ⟨k, ⟨hle, ha⟩, rfl⟩
      · rintro ⟨k, ⟨hk, hin⟩, rfl⟩
        exact ⟨hin, hk⟩
  rw [hL, hR, List.filterMap_map]
  rfl

end PV.Lemmas.Docenc
