import PV.Lemmas.Wrapper.Defs
/-
Arithmetic of the chunk lists (`S`, `part`, `chunksUpTo`), contents of the entry queue (`qfull`), and the
transition function as a relation (`Step`): every later proof about a step is a case analysis on `Step`.
-/
namespace PV.Lemmas.Wrapper
open PV.Wrapper

@[simp] theorem S_zero (p : Params) : S p 0 = 0 := rfl
theorem S_succ (p : Params) (r : Nat) : S p (r + 1) = S p r + sizeOf p r := rfl

theorem S_add_sizeOf_le (p : Params) {r n : Nat} (h : r < n) : S p r + sizeOf p r ≤ S p n := by
  induction h with
  | refl => exact Nat.le_refl _
  | step _ ih => exact Nat.le_trans ih (Nat.le_add_right _ _)

theorem sizeOf_ge (p : Params) {r : Nat} (h : nrec p ≤ r) : sizeOf p r = 0 := by
  unfold Wrapper.sizeOf; rw [List.getD_eq_getElem?_getD, List.getElem?_eq_none h]; rfl

theorem sizeOf_mem (p : Params) {r : Nat} (h : r < nrec p) : sizeOf p r ∈ p.sizes := by
  unfold Wrapper.sizeOf; rw [List.getD_eq_getElem?_getD, List.getElem?_eq_getElem h]; exact List.getElem_mem h

@[simp] theorem part_zero (r : Nat) : part r 0 = [] := rfl
theorem part_succ (r k : Nat) : part r (k + 1) = part r k ++ [(r, k)] := by
  simp only [part, List.range_succ, List.map_append, List.map_cons, List.map_nil]
theorem part_length (r k : Nat) : (part r k).length = k := by
  simp only [part, List.length_map, List.length_range]

@[simp] theorem chunksUpTo_zero (p : Params) : chunksUpTo p 0 = [] := rfl
theorem chunksUpTo_succ (p : Params) (r : Nat) :
    chunksUpTo p (r + 1) = chunksUpTo p r ++ part r (sizeOf p r) := by
  simp only [chunksUpTo, part, List.range_succ, List.flatMap_append, List.flatMap_cons, List.flatMap_nil,
    List.append_nil]

theorem chunksUpTo_length (p : Params) (r : Nat) : (chunksUpTo p r).length = S p r := by
  induction r with
  | zero => rfl
  | succ r ih => rw [chunksUpTo_succ, List.length_append, ih, part_length, S_succ]

theorem range_prefix {a b : Nat} (h : a ≤ b) : List.range a <+: List.range b := by
  obtain ⟨c, rfl⟩ := Nat.exists_eq_add_of_le h
  rw [List.range_add]; exact List.prefix_append _ _

theorem chunksUpTo_prefix (p : Params) {a b : Nat} (h : a ≤ b) : chunksUpTo p a <+: chunksUpTo p b := by
  induction h with
  | refl => exact List.prefix_refl _
  | step _ ih => rw [chunksUpTo_succ]; exact ih.trans (List.prefix_append _ _)

theorem appended_prefix (p : Params) {r k : Nat} (hr : r ≤ nrec p) (hk : k ≤ sizeOf p r) :
    chunksUpTo p r ++ part r k <+: allChunks p := by
  have hp : chunksUpTo p r ++ part r k <+: chunksUpTo p (r + 1) := by
    rw [chunksUpTo_succ]; exact (List.prefix_append_right_inj _).2 ((range_prefix hk).map _)
  rcases Nat.lt_or_eq_of_le hr with hlt | rfl
  · exact hp.trans (chunksUpTo_prefix p hlt)
  · rwa [chunksUpTo_succ, sizeOf_ge p (Nat.le_refl _), part_zero, List.append_nil] at hp

theorem qfull_length (p : Params) (e : Nat) (b : Bool) :
    (qfull p e b).length = e + (if b then 1 else 0) := by
  rw [qfull, List.length_append, List.length_map, List.length_range]; cases b <;> rfl

theorem qfull_getElem? (p : Params) (e : Nat) (b : Bool) (i : Nat) :
    (qfull p e b)[i]? = if i < e then some (entry p i) else if i = e ∧ b = true then some none else none := by
  rw [qfull, List.getElem?_append, List.length_map, List.length_range]
  by_cases h : i < e
  · rw [if_pos h, if_pos h, List.getElem?_map, List.getElem?_range h]; rfl
  · have : i - e = 0 ↔ i = e :=
      Nat.sub_eq_zero_iff_le.trans ⟨(Nat.le_antisymm · (Nat.le_of_not_lt h)), Nat.le_of_eq⟩
    rw [if_neg h, if_neg h]
    cases b
    · exact (if_neg fun g => nomatch g.2).symm
    · simp only [List.getElem?_singleton, this, and_true, if_true]

theorem qfull_succ (p : Params) (e : Nat) : qfull p (e + 1) false = qfull p e false ++ [entry p e] := by
  simp [qfull, List.range_succ]
theorem qfull_true (p : Params) (e : Nat) : qfull p e true = qfull p e false ++ [none] := by
  simp [qfull]

theorem queue_head {p : Params} {e c : Nat} {b : Bool} {x : Option (Nat × Nat)} {rest : List (Option (Nat × Nat))}
    (h : x :: rest = (qfull p e b).drop c) :
    rest = (qfull p e b).drop (c + 1) ∧
      match x with
      | some (r, n) => c < e ∧ r = c ∧ n = sizeOf p c
      | none => c = e ∧ b = true := by
  refine ⟨by rw [← List.tail_drop, ← h]; rfl, ?_⟩
  have h1 : (qfull p e b)[c]? = some x := by rw [← List.head?_drop, ← h]; rfl
  rw [qfull_getElem?] at h1
  by_cases hc : c < e
  · rw [if_pos hc] at h1; cases h1; exact ⟨hc, rfl, rfl⟩
  · by_cases hb : c = e ∧ b = true
    · rw [if_neg hc, if_pos hb] at h1; cases h1; exact hb
    · rw [if_neg hc, if_neg hb] at h1; cases h1

theorem queue_nil {p : Params} {e c : Nat} {b : Bool} (h : [] = (qfull p e b).drop c) (hle : c ≤ e) :
    b = false ∧ e = c := by
  have hl := List.drop_eq_nil_iff.1 h.symm
  rw [qfull_length] at hl
  cases b
  · exact ⟨rfl, Nat.le_antisymm hl hle⟩
  · exact absurd (Nat.le_trans hl hle) (Nat.not_succ_le_self _)

variable {p : Params} {s s' : State} {l : Label}

theorem eIdx_of_enq (h : s.fEnq = true) : eIdx s = s.fRec + 1 := by rw [eIdx, h]; rfl
theorem eIdx_of_not_enq (h : s.fEnq = false) : eIdx s = s.fRec := by rw [eIdx, h]; rfl

/-- `step` as a relation: one rule per label and branch, the guard as separate hypotheses in propositional form. -/
inductive Step (p : Params) (s : State) : Label → State → Prop
  | fEnqueue : s.fRec < nrec p → s.fEnq = false → s.fSpilling = false →
      (p.enqueueFirst = true → s.fSent = 0) → (p.enqueueFirst = false → s.fSent = sizeOf p s.fRec) →
      Step p s .fEnqueue { s with fEnq := true, queue := s.queue ++ [some (s.fRec, sizeOf p s.fRec)] }
  | fAppend : s.fRec < nrec p → s.fSent < sizeOf p s.fRec → s.fSpilling = false →
      (p.enqueueFirst = true → s.fEnq = true) → s.buf.length < p.bufCap →
      Step p s .fAppend { s with buf := s.buf ++ [(s.fRec, s.fSent)], fSent := s.fSent + 1 }
  | fSpillStart : s.fSpilling = false → s.buf ≠ [] →
      (s.fRec < nrec p ∧ s.fSent < sizeOf p s.fRec ∧ (p.enqueueFirst = true → s.fEnq = true) ∧
          s.buf.length = p.bufCap) ∨
        (s.fRec = nrec p ∧ s.fClosed = false ∧ (p.poisonFirst = true → s.fPoison = true)) →
      Step p s .fSpillStart { s with fSpilling := true }
  | fSpill {c rest} : s.buf = c :: rest → s.fSpilling = true → s.pipe1.length < p.cap1 →
      Step p s .fSpill { s with buf := rest, pipe1 := s.pipe1 ++ [c] }
  | fSpillEnd : s.fSpilling = true → s.buf = [] → Step p s .fSpillEnd { s with fSpilling := false }
  | fNext : s.fRec < nrec p → s.fSent = sizeOf p s.fRec → s.fEnq = true → s.fSpilling = false →
      Step p s .fNext { s with fRec := s.fRec + 1, fEnq := false, fSent := 0 }
  | fPoison : s.fRec = nrec p → s.fPoison = false → s.fSpilling = false →
      (p.poisonFirst = false → s.fClosed = true) →
      Step p s .fPoison { s with fPoison := true, queue := s.queue ++ [none] }
  | fClose : s.fRec = nrec p → s.fClosed = false → s.fSpilling = false → s.buf = [] →
      (p.poisonFirst = true → s.fPoison = true) → Step p s .fClose { s with fClosed := true }
  | cRead {c rest} : s.pipe1 = c :: rest → pending p s ≤ p.readAhead →
      Step p s .cRead { s with pipe1 := rest, cRead := s.cRead ++ [c] }
  | cEof : s.pipe1 = [] → s.fClosed = true → s.cEof = false → Step p s .cEof { s with cEof := true }
  | cWrite {c} : s.cEmitted < p.release s.cRead.length s.cEof → s.pipe2.length < p.cap2 →
      s.cRead[s.cEmitted]? = some c →
      Step p s .cWrite { s with pipe2 := s.pipe2 ++ [c], cEmitted := s.cEmitted + 1 }
  | kConsume {r n rest} : s.coll = .idle → s.queue = some (r, n) :: rest →
      Step p s .kConsume { s with queue := rest, coll := .reading r n 0 }
  | kFinish {rest} : s.coll = .idle → s.queue = none :: rest →
      Step p s .kConsume { s with queue := rest, coll := .finished }
  | kRead {r n k c rest} : s.coll = .reading r n k → s.pipe2 = c :: rest → k < n →
      Step p s .kRead { s with pipe2 := rest, got := s.got ++ [c], coll := .reading r n (k + 1) }
  | kOut {r n} : s.coll = .reading r n n →
      Step p s .kOut { s with out := s.out ++ [r], coll := if p.peek ∧ s.queue = [] then .peeking else .idle }
  | kPeekData : s.coll = .peeking → s.pipe2 ≠ [] →
      Step p s .kPeekData { s with coll := if s.queue = [] then .failed else .idle }
  | kPeekEof : s.coll = .peeking → s.pipe2 = [] → s.cEof = true → s.cEmitted = s.cRead.length →
      Step p s .kPeekEof { s with coll := .failed }

theorem Step.of_step (hs : step p s l = some s') : Step p s l s' := by
  cases l with
  | fEnqueue =>
    obtain ⟨⟨hr, he, hsp, hg⟩, rfl⟩ := Option.ite_some_none_eq_some.1 hs
    exact .fEnqueue hr (Bool.not_eq_true' _ ▸ he) (Bool.not_eq_true' _ ▸ hsp) (fun ef => by rwa [if_pos ef] at hg)
      fun nef => by rwa [nef] at hg
  | fAppend =>
    obtain ⟨⟨hr, hlt, hsp, he, hb⟩, rfl⟩ := Option.ite_some_none_eq_some.1 hs
    exact .fAppend hr hlt (Bool.not_eq_true' _ ▸ hsp) he hb
  | fSpillStart =>
    obtain ⟨⟨hsp, hb, hg⟩, rfl⟩ := Option.ite_some_none_eq_some.1 hs
    simp only [Bool.not_eq_true'] at hg
    exact .fSpillStart (Bool.not_eq_true' _ ▸ hsp) hb hg
  | fSpill =>
    simp only [step] at hs
    split at hs
    · rename_i hb
      obtain ⟨⟨hsp, hp⟩, rfl⟩ := Option.ite_some_none_eq_some.1 hs
      exact .fSpill hb hsp hp
    · cases hs
  | fSpillEnd =>
    obtain ⟨⟨hsp, hb⟩, rfl⟩ := Option.ite_some_none_eq_some.1 hs
    exact .fSpillEnd hsp hb
  | fNext =>
    obtain ⟨⟨hr, hn, he, hsp⟩, rfl⟩ := Option.ite_some_none_eq_some.1 hs
    exact .fNext hr hn he (Bool.not_eq_true' _ ▸ hsp)
  | fPoison =>
    obtain ⟨⟨hr, hp, hsp, hg⟩, rfl⟩ := Option.ite_some_none_eq_some.1 hs
    refine .fPoison hr (Bool.not_eq_true' _ ▸ hp) (Bool.not_eq_true' _ ▸ hsp) fun npf => ?_
    rwa [npf] at hg
  | fClose =>
    obtain ⟨⟨hr, hc, hsp, hb, hg⟩, rfl⟩ := Option.ite_some_none_eq_some.1 hs
    exact .fClose hr (Bool.not_eq_true' _ ▸ hc) (Bool.not_eq_true' _ ▸ hsp) hb hg
  | cRead =>
    simp only [step] at hs
    split at hs
    · rename_i hb
      obtain ⟨hg, rfl⟩ := Option.ite_some_none_eq_some.1 hs
      exact .cRead hb hg
    · cases hs
  | cEof =>
    obtain ⟨⟨hp, hc, he⟩, rfl⟩ := Option.ite_some_none_eq_some.1 hs
    exact .cEof hp hc (Bool.not_eq_true' _ ▸ he)
  | cWrite =>
    simp only [step] at hs
    split at hs
    · rename_i hg
      split at hs
      · rename_i hc; cases hs; exact .cWrite hg.1 hg.2 hc
      · cases hs
    · cases hs
  | kConsume =>
    simp only [step] at hs
    split at hs
    · rename_i hc
      split at hs
      · rename_i hq; cases hs; exact .kConsume hc hq
      · rename_i hq; cases hs; exact .kFinish hc hq
      · cases hs
    · cases hs
  | kRead =>
    simp only [step] at hs
    split at hs
    · rename_i hc hp
      obtain ⟨hk, rfl⟩ := Option.ite_some_none_eq_some.1 hs
      exact .kRead hc hp hk
    · cases hs
  | kOut =>
    simp only [step] at hs
    split at hs
    · rename_i hc
      obtain ⟨rfl, rfl⟩ := Option.ite_some_none_eq_some.1 hs
      exact .kOut hc
    · cases hs
  | kPeekData =>
    obtain ⟨⟨hc, hp⟩, rfl⟩ := Option.ite_some_none_eq_some.1 hs
    exact .kPeekData hc hp
  | kPeekEof =>
    obtain ⟨⟨hc, hp, he, hl⟩, rfl⟩ := Option.ite_some_none_eq_some.1 hs
    exact .kPeekEof hc hp he hl

theorem Step.step_eq (h : Step p s l s') : step p s l = some s' := by
  cases h with
  | fEnqueue hr he hsp hg hg' =>
    refine if_pos ⟨hr, he ▸ rfl, hsp ▸ rfl, ?_⟩
    cases hef : p.enqueueFirst
    · exact hg' hef
    · exact hg hef
  | fAppend hr hlt hsp he hb => exact if_pos ⟨hr, hlt, hsp ▸ rfl, he, hb⟩
  | fSpillStart hsp hb hg =>
    refine if_pos ⟨hsp ▸ rfl, hb, hg.imp id fun ⟨hr, hcl, hpo⟩ => ⟨hr, ?_, hpo⟩⟩
    rw [hcl]; rfl
  | fSpill hb hsp hp => simp only [step, hb]; exact if_pos ⟨hsp, hp⟩
  | fSpillEnd hsp hb => exact if_pos ⟨hsp, hb⟩
  | fNext hr hn he hsp => exact if_pos ⟨hr, hn, he, hsp ▸ rfl⟩
  | fPoison hr hp hsp hg =>
    refine if_pos ⟨hr, hp ▸ rfl, hsp ▸ rfl, ?_⟩
    cases hpf : p.poisonFirst
    · exact hg hpf
    · trivial
  | fClose hr hc hsp hb hg => exact if_pos ⟨hr, hc ▸ rfl, hsp ▸ rfl, hb, hg⟩
  | cRead hb hg => simp only [step, hb]; exact if_pos hg
  | cEof hp hc he => exact if_pos ⟨hp, hc, he ▸ rfl⟩
  | cWrite hg hp hc => simp only [step, hc]; exact if_pos ⟨hg, hp⟩
  | kConsume hc hq | kFinish hc hq => simp only [step, hq]; exact if_pos hc
  | kRead hc hp hk => simp only [step, hc, hp]; exact if_pos hk
  | kOut hc => simp only [step, hc]; exact if_pos trivial
  | kPeekData hc hp => exact if_pos ⟨hc, hp⟩
  | kPeekEof hc hp he hl => exact if_pos ⟨hc, hp, he, hl⟩

theorem reachable_of_runTrace (hr : Reachable p s) (tr : List Label) (h : runTrace p s tr = some s') :
    Reachable p s' := by
  induction tr generalizing s with
  | nil => cases h; exact hr
  | cons l ls ih =>
    simp only [runTrace] at h
    split at h
    · rename_i t ht; exact ih (Reachable.step hr ht) h
    · cases h

end PV.Lemmas.Wrapper
