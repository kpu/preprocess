import PV.Lemmas.Wrapper.Basic
/-
`Inv` holds in every reachable state (`inv_step`, by cases on `Step`, proving only the conjuncts whose state
fields the rule writes), and what follows from it: order and completeness of the collector's output.
-/
namespace PV.Lemmas.Wrapper
open PV.Wrapper

variable {p : Params} {s s' : State} {l : Label}

theorem inv_init (p : Params) : Inv p init := by
  constructor <;> simp [init, eIdx, cpos, qfull, collOk]

/-- The feeder produces an entry or the end marker: `e` grows, and the flag may go up with it.  Only `finished` speaks of the
    flag, and the collector has not finished while no marker was produced (`false`). -/
theorem collOk_mono {ol gl e e' : Nat} {fp : Bool} {c : CollState} (h : collOk p ol gl e false c) (he : e ≤ e') :
    collOk p ol gl e' fp c := by
  cases c with
  | reading r sz k =>
    obtain ⟨hr, hsz, hk, hg, hlt⟩ := h
    exact ⟨hr, hsz, hk, hg, Nat.le_trans hlt he⟩
  | finished =>
    obtain ⟨-, hfp, -⟩ := h
    cases hfp
  | peeking =>
    obtain ⟨hg, hle, hrest⟩ := h
    exact ⟨hg, Nat.le_trans hle he, hrest⟩
  | idle | failed => exact ⟨h.1, Nat.le_trans h.2 he⟩

theorem collOk.out_le {ol gl e : Nat} {fp : Bool} {c : CollState} (h : collOk p ol gl e fp c) : ol ≤ e := by
  cases c with
  | reading =>
    obtain ⟨-, -, -, -, hlt⟩ := h
    exact Nat.le_of_succ_le hlt
  | finished =>
    obtain ⟨-, -, he⟩ := h
    exact Nat.le_of_eq he
  | peeking =>
    obtain ⟨-, hle, -⟩ := h
    exact hle
  | idle | failed => exact h.2

namespace Inv
variable (h : Inv p s)
include h

/-- `queue`, `qlen` and `coll` with the collector state, the number of entries and the marker flag as a rule's guard
    gives them: the rule's post-state shows those values, not `s.coll`, `eIdx s`, `s.fPoison`. -/
theorem queue_coll {c : CollState} {e : Nat} {fp : Bool} (hc : s.coll = c) (he : eIdx s = e) (hp : s.fPoison = fp) :
    s.queue = (qfull p e fp).drop (s.out.length + cpos c) ∧ s.out.length + cpos c ≤ e + (if fp then 1 else 0) ∧
      collOk p s.out.length s.got.length e fp c := by
  subst hc he hp
  exact ⟨h.queue, h.qlen, h.coll⟩

theorem not_poison (g : s.fRec < nrec p) : s.fPoison = false :=
  Bool.eq_false_iff.2 fun hx => Nat.ne_of_lt g (h.poison_rec hx)

theorem not_enq (g : s.fRec = nrec p) : s.fEnq = false :=
  Bool.eq_false_iff.2 fun hx => Nat.ne_of_lt (h.enq_lt hx) g

theorem lens : s.got.length + s.pipe2.length = s.cEmitted ∧
    s.cRead.length + s.pipe1.length + s.buf.length = S p s.fRec + s.fSent := by
  have h1 := congrArg List.length h.emit
  have h2 := congrArg List.length h.conserve
  rw [List.length_append, List.length_take, Nat.min_eq_left h.emit_le] at h1
  rw [List.length_append, List.length_append, List.length_append, chunksUpTo_length, part_length] at h2
  exact ⟨h1, h2⟩

theorem eIdx_le : eIdx s ≤ nrec p := by
  cases hx : s.fEnq
  · rw [eIdx_of_not_enq hx]; exact h.fRec_le
  · rw [eIdx_of_enq hx]; exact h.enq_lt hx

theorem sent_le (ef : p.enqueueFirst = true) : S p s.fRec + s.fSent ≤ S p (eIdx s) := by
  cases hx : s.fEnq
  · rw [eIdx_of_not_enq hx, h.ef_sent ef hx]; exact Nat.le_refl _
  · rw [eIdx_of_enq hx]; exact Nat.add_le_add_left h.fSent_le _

/-- When the collector has consumed the answers to every entry produced, nothing is in flight:
    consumed + pipe2 = emitted ≤ read ≤ read + pipe1 + buffer = appended ≤ chunks of the entries produced. -/
theorem nothing_in_flight (ef : p.enqueueFirst = true) (hg : s.got.length = S p (eIdx s)) :
    s.pipe2 = [] ∧ s.buf = [] ∧ s.got.length = S p s.fRec + s.fSent := by
  have := h.lens; have := h.emit_le; have := h.sent_le ef
  rw [← List.length_eq_zero_iff, ← List.length_eq_zero_iff]; omega

/-- entry first, marker first, no marker yet: then by `last_in_buf` the feeder is not inside a record either, so no
    chunk was appended at all. -/
theorem caught_up (ef : p.enqueueFirst = true) (pf : p.poisonFirst = true) (hfp : s.fPoison = false)
    (hg : s.got.length = S p (eIdx s)) : s.got.length = 0 := by
  obtain ⟨-, hb, hk⟩ := h.nothing_in_flight ef hg
  rcases h.last_in_buf ef pf hfp hb with h0 | ⟨-, hlt, he⟩
  · exact hk.trans h0
  · rw [eIdx_of_enq he, S_succ, hk] at hg
    exact absurd (Nat.add_left_cancel hg) (Nat.ne_of_lt hlt)

end Inv

theorem inv_step (h : Inv p s) (hs : Step p s l s') : Inv p s' := by
  cases hs with
  | fEnqueue hr he hsp hg hg' =>
    obtain ⟨hq, hl, hk⟩ := h.queue_coll rfl (eIdx_of_not_enq he) (h.not_poison hr)
    exact { h with
      enq_lt := fun _ => hr
      ef_sent := fun _ hf => nomatch hf
      nef_sent := fun nef _ => hg' nef
      spilling := fun hf => nomatch hsp.symm.trans hf
      queue := by
        show _ = (qfull p (s.fRec + 1) s.fPoison).drop _
        rw [h.not_poison hr, qfull_succ, List.drop_append_of_le_length (by rw [qfull_length]; exact hl), ← hq]; rfl
      qlen := Nat.le_trans hl (Nat.le_add_right_of_le (Nat.le_succ _))
      coll := collOk_mono hk (Nat.le_succ _)
      last_in_buf := fun ef pf hf hb => (h.last_in_buf ef pf hf hb).imp id fun ⟨hr, hlt, _⟩ => ⟨hr, hlt, rfl⟩ }
  | fAppend hr hlt hsp he hb =>
    exact { h with
      fSent_le := hlt
      ef_sent := fun ef hf => nomatch (he ef).symm.trans hf
      nef_sent := fun nef hf => absurd (h.nef_sent nef hf) (Nat.ne_of_lt hlt)
      closed := fun hc => absurd (h.closed hc).1 (Nat.ne_of_lt hr)
      buf_le := by rw [List.length_append]; exact hb
      spilling := fun hf => nomatch hsp.symm.trans hf
      conserve := by rw [part_succ, ← List.append_assoc, ← List.append_assoc, h.conserve]
      last_in_buf := fun _ _ _ hbn => absurd hbn (List.append_ne_nil_of_right_ne_nil _ (List.cons_ne_nil _ _)) }
  | fSpillStart hsp hb hg =>
    exact { h with
      closed := fun hc => absurd (h.closed hc).2.1 hb
      spilling := fun _ => hg.imp (fun ⟨hr, hlt, he, _⟩ => ⟨hr, hlt, he⟩) fun ⟨hr, _, hpo⟩ => ⟨hr, hpo⟩ }
  | fSpill hb hsp hp =>
    have hc := h.conserve; have hl := h.buf_le
    rw [hb] at hl; rw [hb, List.append_cons, List.append_assoc s.cRead] at hc
    exact { h with
      closed := fun hc => nomatch hsp.symm.trans (h.closed hc).2.2
      eof := fun he => nomatch hsp.symm.trans (h.closed (h.eof he).1).2.2
      buf_le := Nat.le_of_succ_le hl
      conserve := hc
      last_in_buf := fun ef pf hf _ => (h.spilling hsp).elim (fun ⟨hr, hlt, he⟩ => .inr ⟨hr, hlt, he ef⟩)
        fun ⟨_, hpo⟩ => nomatch hf.symm.trans (hpo pf) }
  | fSpillEnd hsp hb =>
    exact { h with
      closed := fun hc => ⟨(h.closed hc).1, hb, rfl⟩
      spilling := fun hf => nomatch hf }
  | fNext hr hn he hsp =>
    obtain ⟨hq, hl, hk⟩ := h.queue_coll rfl (eIdx_of_enq he) rfl
    exact { h with
      fRec_le := hr
      fSent_le := Nat.zero_le _
      enq_lt := fun hf => nomatch hf
      ef_sent := fun _ _ => rfl
      nef_sent := fun _ hf => nomatch hf
      poison_rec := fun hf => absurd (h.poison_rec hf) (Nat.ne_of_lt hr)
      closed := fun hc => absurd (h.closed hc).1 (Nat.ne_of_lt hr)
      spilling := fun hf => nomatch hsp.symm.trans hf
      conserve := by rw [chunksUpTo_succ, ← hn, part_zero, List.append_nil]; exact h.conserve
      queue := hq
      qlen := hl
      coll := hk
      last_in_buf := fun ef pf hf hb => .inl <|
        (h.last_in_buf ef pf hf hb).elim (fun h0 => by rwa [hn] at h0) fun ⟨_, hlt, _⟩ => absurd hn (Nat.ne_of_lt hlt) }
  | fPoison hr hp hsp hg =>
    obtain ⟨hq, hl, hk⟩ := h.queue_coll rfl rfl hp
    exact { h with
      poison_rec := fun _ => hr
      pf_closed := fun _ _ => rfl
      npf_poison := fun npf _ => hg npf
      spilling := fun hf => nomatch hsp.symm.trans hf
      queue := by
        show _ = (qfull p (eIdx s) true).drop _
        rw [qfull_true, List.drop_append_of_le_length (by rw [qfull_length]; exact hl), ← hq]
      qlen := Nat.le_succ_of_le hl
      coll := collOk_mono hk (Nat.le_refl _)
      last_in_buf := fun _ _ hf => nomatch hf }
  | fClose hr hc hsp hb hg =>
    exact { h with
      closed := fun _ => ⟨hr, hb, hsp⟩
      pf_closed := fun pf _ => hg pf
      npf_poison := fun _ _ => rfl
      eof := fun he => ⟨rfl, (h.eof he).2⟩ }
  | cRead hb hg =>
    have hc := h.conserve
    rw [hb, List.append_cons] at hc
    exact { h with
      eof := fun he => nomatch hb.symm.trans (h.eof he).2
      conserve := hc
      emit := by rw [List.take_append_of_le_length h.emit_le]; exact h.emit
      emit_le := by rw [List.length_append]; exact Nat.le_add_right_of_le h.emit_le }
  | cEof hp hc he =>
    exact { h with eof := fun _ => ⟨hc, hp⟩ }
  | cWrite hg hp hc =>
    exact { h with
      emit := by rw [List.take_add_one, hc, ← List.append_assoc, h.emit]; rfl
      emit_le := (List.getElem?_eq_some_iff.1 hc).1 }
  | kConsume hc hq =>
    obtain ⟨hq', -, hg, -⟩ := h.queue_coll hc rfl rfl
    obtain ⟨hrest, hlt, rfl, rfl⟩ := queue_head (hq ▸ hq')
    exact { h with
      queue := hrest
      qlen := Nat.le_trans (Nat.succ_le_of_lt hlt) (Nat.le_add_right _ _)
      coll := ⟨rfl, rfl, Nat.zero_le _, hg, Nat.succ_le_of_lt hlt⟩ }
  | kFinish hc hq =>
    obtain ⟨hq', -, hg, -⟩ := h.queue_coll hc rfl rfl
    obtain ⟨hrest, he, hfp⟩ := queue_head (hq ▸ hq')
    exact { h with
      queue := hrest
      qlen := by rw [hfp]; exact Nat.succ_le_succ (Nat.le_of_eq he)
      coll := ⟨hg, hfp, he⟩ }
  | kRead hc hp hk =>
    have he := h.emit
    rw [hp, List.append_cons] at he
    obtain ⟨hq, hl, hr, hsz, -, hg, hlt⟩ := h.queue_coll hc rfl rfl
    exact { h with
      emit := he
      queue := hq
      qlen := hl
      coll := ⟨hr, hsz, hk, by rw [List.length_append, hg]; rfl, hlt⟩ }
  | kOut hc =>
    obtain ⟨hq, hl, rfl, rfl, -, hg, hlt⟩ := h.queue_coll hc rfl rfl
    have hcp : cpos (if p.peek = true ∧ s.queue = [] then CollState.peeking else CollState.idle) = 0 := by
      split <;> rfl
    exact { h with
      out_range := by rw [List.length_append, List.length_singleton, List.range_succ, ← h.out_range]
      queue := by rw [hcp, List.length_append]; exact hq
      qlen := by rw [hcp, List.length_append]; exact hl
      coll := by
        show collOk p (s.out ++ [_]).length s.got.length (eIdx s) s.fPoison (if _ then _ else _)
        rw [List.length_append]
        split
        · rename_i hpk
          refine ⟨hg, hlt, Nat.succ_ne_zero _, fun ef pf => .inl ?_⟩
          obtain ⟨hfp, he⟩ := queue_nil (hpk.2 ▸ hq) hlt
          exact h.caught_up ef pf hfp (he ▸ hg)
        · exact ⟨hg, hlt⟩ }
  | kPeekData hc hp =>
    obtain ⟨hq, hl, hg, hle, -⟩ := h.queue_coll hc rfl rfl
    have hcp : cpos (if s.queue = [] then CollState.failed else CollState.idle) = 0 := by split <;> rfl
    exact { h with
      queue := by rw [hcp]; exact hq
      qlen := by rw [hcp]; exact hl
      coll := by split <;> exact ⟨hg, hle⟩ }
  | kPeekEof hc =>
    obtain ⟨hq, hl, hg, hle, -⟩ := h.queue_coll hc rfl rfl
    exact { h with
      queue := hq
      qlen := hl
      coll := ⟨hg, hle⟩ }

theorem inv_of_reachable (hr : Reachable p s) : Inv p s := by
  induction hr with
  | init => exact inv_init p
  | step _ hs ih => exact inv_step ih (.of_step hs)

namespace Inv
variable (h : Inv p s)
include h

theorem cRead_prefix : s.cRead <+: allChunks p :=
  List.IsPrefix.trans ⟨s.pipe1 ++ s.buf, (List.append_assoc ..).symm.trans h.conserve⟩
    (appended_prefix p h.fRec_le h.fSent_le)

theorem got_prefix : s.got <+: allChunks p :=
  (List.IsPrefix.trans ⟨s.pipe2, h.emit⟩ (List.take_prefix ..)).trans h.cRead_prefix

theorem out_prefix : s.out <+: List.range (nrec p) := by
  rw [h.out_range]; exact range_prefix (Nat.le_trans h.coll.out_le h.eIdx_le)

theorem closed_sent (hc : s.fClosed = true) : s.fRec = nrec p ∧ s.fSent = 0 ∧ s.buf = [] := by
  obtain ⟨c1, c2, -⟩ := h.closed hc
  have := h.fSent_le
  rw [c1, sizeOf_ge p (Nat.le_refl _)] at this
  exact ⟨c1, Nat.le_zero.1 this, c2⟩

theorem final (hf : Final p s) :
    s.out = List.range (nrec p) ∧ s.got = allChunks p ∧ s.cRead = allChunks p := by
  obtain ⟨f1, f2, -, -, f5, f6, f7, -⟩ := hf
  obtain ⟨c1, c2, c3⟩ := h.closed_sent f2
  have hc := h.conserve
  rw [c3, f6, c2, c1, List.append_nil, List.append_nil, part_zero, List.append_nil] at hc
  have hg := h.emit
  rw [f7, f5, List.take_length, List.append_nil] at hg
  obtain ⟨-, -, -, -, ho⟩ := h.queue_coll f1 (eIdx_of_not_enq (h.not_enq c1)) rfl
  exact ⟨by rw [h.out_range, ho, c1], hg.trans hc, hc⟩

end Inv
end PV.Lemmas.Wrapper
