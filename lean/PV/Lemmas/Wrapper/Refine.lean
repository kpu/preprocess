import PV.Lemmas.Wrapper.Inv
/-
Refinement: `absOf` maps a concrete state to a state of the visible-event automaton; every rule of `Step` is
matched by the event it projects to, or leaves the abstract state alone (`ref_step`).
-/
namespace PV.Lemmas.Wrapper
open PV.Wrapper

variable {p : Params} {s s' : State} {l : Label}

/-- The automaton's feeder position (record, entry announced, counter).  With the entry first its counter holds the
    chunks still to be written, and it moves on to the next record with the last `write`; with the entry last it
    moves on with `enq`.  The LTS moves on only at `fNext`, which is invisible: hence the `+ 1` branches.  The test is
    on the counter, as in `astep`, so that in `ref_step` both sides branch on the same condition; the arguments are
    the three fields, so that a rule which leaves them alone need not unfold `feederOf`. -/
def feederOf (p : Params) (fRec : Nat) (fEnq : Bool) (fSent : Nat) : Nat × Bool × Nat :=
  if p.enqueueFirst then
    if fEnq then
      if sizeOf p fRec - fSent = 0 then (fRec + 1, false, 0) else (fRec, true, sizeOf p fRec - fSent)
    else (fRec, false, 0)
  else if fEnq then (fRec + 1, false, 0) else (fRec, false, fSent)

def curOf : CollState → Option (Nat × Nat)
  | .reading _ n k => some (n, k)
  | _ => none

def finOf : CollState → Bool
  | .finished => true
  | _ => false

def absOf (p : Params) (s : State) : AState :=
  let f := feederOf p s.fRec s.fEnq s.fSent
  { fRec := f.1, fEnq := f.2.1, fSent := f.2.2,
    fPoison := s.fPoison, fClosed := s.fClosed, written := S p s.fRec + s.fSent,
    queue := s.queue.map (Option.map Prod.snd), cur := curOf s.coll, reads := s.got.length,
    outs := s.out.length, finished := finOf s.coll }

theorem absOf_init (p : Params) : absOf p init = ainit := by
  cases h : p.enqueueFirst <;> simp [absOf, feederOf, init, ainit, h, curOf, finOf]

def RefStep (p : Params) (s : State) (l : Label) (s' : State) : Prop :=
  match project p s l with
  | some e => astep p.enqueueFirst p.poisonFirst (absOf p s) e = some (absOf p s')
  | none => absOf p s = absOf p s'

/- In each visible rule `simp` unfolds `astep` at the projected event, decides the guard of the branch the comment
   names from the facts listed, and compares `absOf` of the two states field by field. -/
theorem ref_step (h : Inv p s) (hs : Step p s l s') : RefStep p s l s' := by
  cases hs with
  | fEnqueue hr he hsp hg hg' =>
    have hp := h.not_poison hr
    simp only [RefStep, project]
    cases hef : p.enqueueFirst
    · -- `enq`, entry last: the guard `fSent = n` holds as all chunks are written; both sides go to the next record
      have hg := hg' hef
      simp [astep, absOf, feederOf, hef, he, hp, hg]
    · -- `enq`, entry first: guard `!fEnq ∧ fSent = 0`; then both sides branch on `sizeOf p s.fRec = 0`
      have hg := hg hef
      simp [astep, absOf, feederOf, hef, he, hp, hg]
      split <;> rfl
  | fAppend hr hlt hsp he hb =>
    have hp := h.not_poison hr
    have hc : s.fClosed = false := Bool.eq_false_iff.2 fun hx => Nat.ne_of_lt hr (h.closed hx).1
    simp only [RefStep, project]
    cases hef : p.enqueueFirst
    · -- `write`, entry last: not poisoned, not closed; the entry is still to come and the counter goes up
      have he : s.fEnq = false := Bool.eq_false_iff.2 fun hx => Nat.ne_of_lt hlt (h.nef_sent hef hx)
      simp [astep, absOf, feederOf, hef, he, hp, hc, Nat.add_assoc]
    · -- `write`, entry first: guard `fEnq ∧ 0 < fSent` on the counter `size - fSent`; then both sides branch on
      -- whether this was the last chunk
      have he := he hef
      simp [astep, absOf, feederOf, hef, he, hp, hc, Nat.sub_ne_zero_of_lt hlt, Nat.sub_pos_of_lt hlt,
        Nat.sub_add_eq]
      split <;> rfl
  | fNext hr hn he hsp =>
    -- invisible: the record being complete, `feederOf` has moved on already
    simp only [RefStep, project]
    cases hef : p.enqueueFirst <;> simp [absOf, feederOf, hef, he, hn, S_succ]
  | fPoison hr hp hsp hg =>
    -- `poison`: guard `!fPoison ∧ (enqueueFirst → !fEnq ∨ fSent = 0) ∧ (poisonFirst ∨ fClosed)`
    have he := h.not_enq hr
    have hg : p.poisonFirst = true ∨ s.fClosed = true := (Bool.eq_false_or_eq_true _).imp_right hg
    simp only [RefStep, project]
    cases hef : p.enqueueFirst <;> simp [astep, absOf, feederOf, hef, hp, he, hg]
  | fClose hr hc hsp hb hg =>
    -- `close`: guard `!fClosed ∧ (poisonFirst → fPoison)`
    simp only [RefStep, project]
    simpa [astep, absOf, hc] using hg
  -- `consume`, `finish`: `cur = none` and `!finished` as the collector is idle; the queue's head is the rule's
  | kConsume hc hq | kFinish hc hq => simp [RefStep, project, hq, astep, absOf, hc, curOf, finOf]
  | kRead hc hp hk =>
    -- `read`: guard `k < n ∧ reads < written`; the answer read was emitted, so its chunk was read, so it was appended
    have hlt : s.got.length < S p s.fRec + s.fSent := by
      obtain ⟨l1, l2⟩ := h.lens
      have := h.emit_le
      rw [hp, List.length_cons] at l1
      omega
    simp [RefStep, project, astep, absOf, hc, curOf, finOf, hk, hlt]
  | kOut hc =>
    -- `out`: guard `k = n`; peeking and idle both have `cur = none`
    by_cases hq : p.peek = true ∧ s.queue = [] <;>
      simp [RefStep, project, astep, absOf, hc, hq, curOf, finOf]
  -- invisible: peeking, idle and failed look alike from outside
  | kPeekData hc hp =>
    by_cases hq : s.queue = [] <;> simp [RefStep, project, absOf, hc, hq, curOf, finOf]
  | kPeekEof hc hp he hl => simp only [RefStep, project, absOf, hc, curOf, finOf]
  | fSpillStart | fSpill | fSpillEnd | cRead | cEof | cWrite => rfl

end PV.Lemmas.Wrapper
