import PV.Lemmas.Wrapper.Inv
/-
No deadlock (`progress`): in a state satisfying `Inv` whose collector has not failed, everything is done or some rule
of `Step` applies.  The rule is looked for in layers: the collector; where it waits, the child (`cf_progress`); where
that waits too, the feeder (`feeder_progress`).  Under `Hyp` the collector never fails (`nf_reachable`).
-/
namespace PV.Lemmas.Wrapper
open PV.Wrapper

variable {p : Params} {s s' : State} {l : Label}

def En (p : Params) (s : State) : Prop := ∃ l s', step p s l = some s'

theorem Step.en (h : Step p s l s') : En p s := ⟨l, s', h.step_eq⟩

structure Done (s : State) : Prop where
  closed : s.fClosed = true
  eof : s.cEof = true
  pipe1 : s.pipe1 = []
  emitted : s.cEmitted = s.cRead.length

theorem feeder_progress (h : Inv p s) (hok : p.Ok) (ef : p.enqueueFirst = true)
    (hc : s.fClosed = false) (hp1 : s.pipe1 = []) : En p s := by
  cases hsp : s.fSpilling
  · by_cases hr : s.fRec < nrec p
    · cases he : s.fEnq
      · exact (Step.fEnqueue hr he hsp (fun _ => h.ef_sent ef he) fun nef => nomatch ef.symm.trans nef).en
      · by_cases hs : s.fSent < sizeOf p s.fRec
        · by_cases hbl : s.buf.length < p.bufCap
          · exact (Step.fAppend hr hs hsp (fun _ => he) hbl).en
          · refine (Step.fSpillStart hsp (fun hn => ?_)
              (.inl ⟨hr, hs, fun _ => he, Nat.le_antisymm h.buf_le (Nat.le_of_not_lt hbl)⟩)).en
            rw [hn] at hbl; exact hbl hok.buf
        · exact (Step.fNext hr (Nat.le_antisymm h.fSent_le (Nat.le_of_not_lt hs)) he hsp).en
    · have hr' : s.fRec = nrec p := Nat.le_antisymm h.fRec_le (Nat.le_of_not_lt hr)
      by_cases hpo : p.poisonFirst = true ∧ s.fPoison = false
      · exact (Step.fPoison hr' hpo.2 hsp fun npf => nomatch hpo.1.symm.trans npf).en
      · have hg : p.poisonFirst = true → s.fPoison = true := fun pf =>
          Bool.not_eq_false _ ▸ fun hx => hpo ⟨pf, hx⟩
        by_cases hbn : s.buf = []
        · exact (Step.fClose hr' hc hsp hbn hg).en
        · exact (Step.fSpillStart hsp hbn (.inr ⟨hr', hc, hg⟩)).en
  · by_cases hbn : s.buf = []
    · exact (Step.fSpillEnd hsp hbn).en
    · obtain ⟨c, rest, hb⟩ := List.exists_cons_of_ne_nil hbn
      exact (Step.fSpill hb hsp (by rw [hp1]; exact hok.c1)).en

theorem cf_progress (h : Inv p s) (hok : p.Ok) (ef : p.enqueueFirst = true)
    (hp2 : s.pipe2 = []) : En p s ∨ Done s := by
  by_cases hw : s.cEmitted < p.release s.cRead.length s.cEof
  · have hlt := Nat.lt_of_lt_of_le hw (hok.policy.le _ _)
    exact .inl (Step.cWrite hw (by rw [hp2]; exact hok.c2) (List.getElem?_eq_getElem hlt)).en
  · by_cases hp1 : s.pipe1 = []
    · cases hc : s.fClosed
      · exact .inl (feeder_progress h hok ef hc hp1)
      · cases he : s.cEof
        · exact .inl (Step.cEof hp1 hc he).en
        · rw [he, hok.policy.eof] at hw
          exact .inr ⟨hc, he, hp1, Nat.le_antisymm h.emit_le (Nat.le_of_not_lt hw)⟩
    · obtain ⟨c, rest, hb⟩ := List.exists_cons_of_ne_nil hp1
      -- a child that is not willing to write (`hw`) has no answer pending, so the read-ahead bound lets it read
      have h0 : pending p s = 0 := Nat.sub_eq_zero_of_le (Nat.le_of_not_lt hw)
      exact .inl (Step.cRead hb (h0 ▸ Nat.zero_le _)).en

theorem Inv.done_got (h : Inv p s) (hd : Done s) (hp2 : s.pipe2 = []) :
    s.got.length = S p (nrec p) ∧ s.fRec = nrec p := by
  obtain ⟨c1, c2, c3⟩ := h.closed_sent hd.closed
  obtain ⟨l1, l2⟩ := h.lens
  rw [c3, hd.pipe1, c2, c1] at l2
  rw [hp2, hd.emitted] at l1
  exact ⟨l1.trans l2, c1⟩

/-- `nz`: a peeking wrapper that has records sends at least one chunk.  Without it the collector peeks after a record
    of size 0 while nothing is in flight, and `kPeekEof` fails it (`PV.Props.C05.no_deadlock_is_false`). -/
structure Hyp (p : Params) : Prop where
  ok : p.Ok
  ef : p.enqueueFirst = true
  pf : p.peek = true → p.poisonFirst = true
  nz : p.peek = true → nrec p = 0 ∨ 0 < S p (nrec p)

/-- the collector has not failed.  The second clause carries the induction: the collector peeks only in a peeking wrapper, and
    the case `kPeekEof` needs that to use `Hyp.pf` and `Hyp.nz`. -/
def NF (p : Params) (s : State) : Prop := s.coll ≠ .failed ∧ (s.coll = .peeking → p.peek = true)

theorem nf_step (hp : Hyp p) (h : Inv p s) (hn : NF p s) (hs : Step p s l s') : NF p s' := by
  cases hs with
  | kConsume | kFinish | kRead => exact ⟨nofun, nofun⟩
  | kOut hc =>
    split
    · rename_i hpk; exact ⟨nofun, fun _ => hpk.1⟩
    · exact ⟨nofun, nofun⟩
  | kPeekData hc hp2 =>
    -- surplus output: the queue cannot be empty, since all answers of the entries produced have been consumed
    have hq : s.queue ≠ [] := fun hq => by
      obtain ⟨hq', -, hg, hle, -⟩ := h.queue_coll hc rfl rfl
      have he := (queue_nil (hq ▸ hq') hle).2
      exact hp2 (h.nothing_in_flight hp.ef (he ▸ hg)).1
    rw [NF, if_neg hq]; exact ⟨nofun, nofun⟩
  | kPeekEof hc hp2 he hl =>
    exfalso
    have pk := hn.2 hc
    obtain ⟨f1, f2⟩ := h.eof he
    obtain ⟨-, -, -, hle, hne, hmore⟩ := h.queue_coll hc rfl rfl
    -- child ended early: it has answered every chunk and all answers are consumed (`hall`), while the collector
    -- expects more unless it never consumed one (`hmore`): so no chunk exists, by `nz` no record, yet one was emitted
    have hall := (h.done_got ⟨f1, he, f2, hl⟩ hp2).1
    have hmore := hmore hp.ef (hp.pf pk)
    have hnz := hp.nz pk
    have hrec := Nat.le_trans hle h.eIdx_le
    omega
  | _ => exact hn

theorem nf_reachable (hp : Hyp p) (hr : Reachable p s) : NF p s := by
  induction hr with
  | init => exact ⟨nofun, nofun⟩
  | step hr hs ih => exact nf_step hp (inv_of_reachable hr) ih (.of_step hs)

theorem progress {p : Params} {s : State} (hp : Hyp p) (h : Inv p s) (hn : NF p s) : Final p s ∨ En p s := by
  have hok := hp.ok; have ef := hp.ef
  cases hc : s.coll with
  | failed => exact absurd hc hn.1
  | reading r n k =>
    obtain ⟨-, -, rfl, rfl, hk, hg, hlt⟩ := h.queue_coll hc rfl rfl
    by_cases hkn : k = sizeOf p s.out.length
    · subst hkn; exact .inr (Step.kOut hc).en
    · by_cases hp2 : s.pipe2 = []
      · rcases cf_progress h hok ef hp2 with he | hd
        · exact .inr he
        · -- all is flushed, yet the collector waits for an answer to a record that exists
          exfalso
          have hall := (h.done_got hd hp2).1
          have := S_add_sizeOf_le p (Nat.lt_of_lt_of_le hlt h.eIdx_le)
          omega
      · obtain ⟨c, rest, hb⟩ := List.exists_cons_of_ne_nil hp2
        exact .inr (Step.kRead hc hb (Nat.lt_of_le_of_ne hk hkn)).en
  | idle =>
    cases hq : s.queue with
    | nil =>
      -- nothing to consume and all answers consumed: the feeder or the child moves, at last producing the end marker
      obtain ⟨hq', -, hg, hle⟩ := h.queue_coll hc rfl rfl
      obtain ⟨hfp, he⟩ := queue_nil (hq ▸ hq') hle
      have hp2 := (h.nothing_in_flight ef (he ▸ hg)).1
      rcases cf_progress h hok ef hp2 with he | hd
      · exact .inr he
      · exact .inr (Step.fPoison (h.done_got hd hp2).2 hfp (h.closed hd.closed).2.2 fun _ => hd.closed).en
    | cons e rest =>
      cases e with
      | some rn => exact .inr (Step.kConsume hc hq).en
      | none => exact .inr (Step.kFinish hc hq).en
  | peeking =>
    by_cases hp2 : s.pipe2 = []
    · rcases cf_progress h hok ef hp2 with he | hd
      · exact .inr he
      · -- `kPeekEof` is enabled, which is all that is asked here; `nf_step` shows from these same hypotheses that
        -- this branch is empty
        exact .inr (Step.kPeekEof hc hp2 hd.eof hd.emitted).en
    · exact .inr (Step.kPeekData hc hp2).en
  | finished =>
    obtain ⟨hq', -, hg, hfp, he⟩ := h.queue_coll hc rfl rfl
    have hq : s.queue = [] := by
      rw [hq', List.drop_eq_nil_iff, qfull_length, hfp, he]; exact Nat.le_refl _
    have hp2 := (h.nothing_in_flight ef (he ▸ hg)).1
    rcases cf_progress h hok ef hp2 with hen | hd
    · exact .inr hen
    · exact .inl ⟨hc, hd.closed, hfp, hd.eof, hd.emitted, hd.pipe1, hp2, hq⟩

end PV.Lemmas.Wrapper
