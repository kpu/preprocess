import PV.Lemmas.Wrapper.Basic
/-
Termination: `mu` counts the moves every chunk, record and flag still has to make; every rule of `Step` lowers it.
-/
namespace PV.Lemmas.Wrapper
open PV.Wrapper

variable {p : Params} {s s' : State} {l : Label}

/-- feeder: a chunk not yet appended has 7 moves ahead of it (buffer 4, pipe 3, child 2, pipe 1, collector 0)
    and pays for the spill it may cause; a record costs its entry (4) and the advance to the next record, which
    weighs 8 because it re-arms the entry flag. -/
def feedW (p : Params) (fRec fSent : Nat) (fEnq : Bool) : Nat :=
  7 * (S p (nrec p) - (S p fRec + fSent)) + 8 * (nrec p - fRec) + (bif fEnq then 0 else 4)

/-- stream buffer holding `n` chunks: at rest each chunk also carries the start and the end of a spill. -/
def bufW (spilling : Bool) (n : Nat) : Nat := bif spilling then 4 * n + 1 else 6 * n

def collW : CollState → Nat
  | .reading .. => 3
  | .peeking => 2
  | .idle => 1
  | _ => 0

def flagW (fPoison fClosed cEof : Bool) : Nat :=
  (bif fPoison then 0 else 4) + (bif fClosed then 0 else 1) + (bif cEof then 0 else 1)

/-- the summands are in the order of a chunk's way through the system, so that most rules change two neighbours. -/
def mu (p : Params) (s : State) : Nat :=
  feedW p s.fRec s.fSent s.fEnq + bufW s.fSpilling s.buf.length + 3 * s.pipe1.length +
  2 * (s.cRead.length - s.cEmitted) + s.pipe2.length + collW s.coll + 3 * s.queue.length +
  flagW s.fPoison s.fClosed s.cEof

theorem mu_decreases (hs : Step p s l s') : mu p s' < mu p s := by
  cases hs with
  | fEnqueue hr he hsp hg =>
    have : feedW p s.fRec s.fSent true + 4 = feedW p s.fRec s.fSent false := rfl
    simp only [mu, he, List.length_append, List.length_singleton, Nat.add_lt_add_iff_right]; omega
  | fAppend hr hlt hsp he hb =>
    have := S_add_sizeOf_le p hr
    simp only [mu, feedW, bufW, hsp, List.length_append, List.length_singleton, cond_false, Nat.add_lt_add_iff_right]
    omega
  | fSpillStart hsp hb hg =>
    have := List.length_pos_iff.2 hb
    simp only [mu, bufW, hsp, cond_true, cond_false, Nat.add_lt_add_iff_right, Nat.add_lt_add_iff_left]; omega
  | fSpill hb hsp hp =>
    simp only [mu, bufW, hb, hsp, List.length_append, List.length_cons, List.length_nil, cond_true,
      Nat.add_lt_add_iff_right]
    omega
  | fSpillEnd hsp hb =>
    simp only [mu, bufW, hb, hsp, List.length_nil, cond_true, cond_false, Nat.add_lt_add_iff_right]
    exact Nat.lt_succ_self _
  | fNext hr hn he hsp =>
    have := S_add_sizeOf_le p hr
    simp only [mu, feedW, he, hn, S_succ, cond_true, cond_false, Nat.add_lt_add_iff_right]; omega
  | fPoison hr hp hsp hg =>
    simp only [mu, flagW, hp, List.length_append, List.length_singleton, cond_true, cond_false]; omega
  | fClose hr hc hsp hb hg =>
    simp only [mu, flagW, hc, cond_true, cond_false, Nat.add_lt_add_iff_right, Nat.add_lt_add_iff_left]
    exact Nat.lt_succ_self _
  | cRead hb hg =>
    simp only [mu, hb, List.length_append, List.length_cons, List.length_nil, Nat.add_lt_add_iff_right]; omega
  | cEof hp hc he =>
    simp only [mu, flagW, he, cond_true, cond_false, Nat.add_lt_add_iff_right, Nat.add_lt_add_iff_left]
    exact Nat.lt_succ_self _
  | cWrite hg hp hc =>
    have := (List.getElem?_eq_some_iff.1 hc).1
    simp only [mu, List.length_append, List.length_singleton, Nat.add_lt_add_iff_right]; omega
  | kConsume hc hq | kFinish hc hq =>
    simp only [mu, hc, hq, List.length_cons, collW, Nat.add_lt_add_iff_right]; omega
  | kRead hc hp hk =>
    simp only [mu, hc, hp, List.length_cons, collW, Nat.add_lt_add_iff_right]; omega
  | kOut hc =>
    have : collW (if p.peek = true ∧ s.queue = [] then .peeking else .idle) ≤ 2 := by split <;> decide
    simp only [mu, hc, Nat.add_lt_add_iff_right, Nat.add_lt_add_iff_left]; exact Nat.lt_succ_of_le this
  | kPeekData hc hp =>
    have : collW (if s.queue = [] then .failed else .idle) ≤ 1 := by split <;> decide
    simp only [mu, hc, Nat.add_lt_add_iff_right, Nat.add_lt_add_iff_left]; exact Nat.lt_succ_of_le this
  | kPeekEof hc hp he hl =>
    simp only [mu, hc, collW, Nat.add_lt_add_iff_right]; exact Nat.lt_add_of_pos_right Nat.two_pos

end PV.Lemmas.Wrapper
