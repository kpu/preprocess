import PV.Lemmas.Table.Double
/-
C13, the invariant `Inv` of reachable tables, the abstraction `Abs` to the specification's map, and the refinement
induction over operation histories (`run_inv`).
-/
namespace PV.Lemmas.Table
open PV.Table PV.Spec.Map

-- `N` is `t.slots.size` (`Good.size`); `3 ≤ m` (8 buckets at the start) is what `WF` does not say
def Inv (t : Table) : Prop :=
  ∃ N, Good t N ∧ (∃ m, 3 ≤ m ∧ N = 2 ^ m) ∧ t.entries = cnt t.key N ∧
    t.entries ≤ t.threshold ∧ t.threshold = thresholdOf N

def Abs (t : Table) (m : M) : Prop :=
  ∀ k, k ≠ 0 → ∀ e, lookup m k = some e ↔ e.1 = k ∧ e ∈ ents t.slots t.slots.size

theorem Abs.perm {t t' : Table} {m : M} (ha : Abs t m)
    (hp : (ents t'.slots t'.slots.size).Perm (ents t.slots t.slots.size)) : Abs t' m :=
  fun k hk e => (ha k hk e).trans (and_congr_right fun _ => hp.mem_iff.symm)

theorem lookup_cons (m : M) (a : Nat × Nat) (k : Nat) :
    lookup (a :: m) k = if a.1 = k then some a else lookup m k := by
  unfold lookup
  rw [List.find?_cons]
  by_cases h : a.1 = k
  · rw [beq_iff_eq.2 h, if_pos h]
  · rw [beq_false_of_ne h, if_neg h]

theorem Abs.cons {t t' : Table} {m : M} {k v : Nat} (ha : Abs t m)
    (hnew : ∀ e ∈ ents t.slots t.slots.size, e.1 ≠ k)
    (hp : (ents t'.slots t'.slots.size).Perm ((k, v) :: ents t.slots t.slots.size)) :
    Abs t' ((k, v) :: m) := by
  intro k' hk' e
  rw [lookup_cons, hp.mem_iff, List.mem_cons]
  by_cases hkk : k = k'
  · subst hkk
    rw [if_pos rfl]
    exact ⟨fun h => Option.some.inj h ▸ ⟨rfl, .inl rfl⟩,
      fun ⟨h1, h2⟩ => h2.elim (· ▸ rfl) fun h2 => absurd h1 (hnew e h2)⟩
  · rw [if_neg hkk, ha k' hk' e]
    exact and_congr_right fun h1 => ⟨.inr, fun h2 => h2.resolve_left fun h => hkk (h1 ▸ h ▸ rfl)⟩

theorem thresholdOf_lt {N : Nat} (hN : 0 < N) : thresholdOf N < N :=
  Nat.lt_of_le_of_lt (Nat.min_le_left ..) (Nat.sub_lt hN Nat.one_pos)

theorem thresholdOf_double {N : Nat} (hN : 0 < N) : thresholdOf N < thresholdOf (2 * N) :=
  Nat.lt_min.2 ⟨Nat.lt_of_le_of_lt (Nat.min_le_left ..) (by omega),
    Nat.lt_of_le_of_lt (Nat.min_le_right ..) (by omega)⟩

/-- `Inv` with its `N` replaced by the table size, and (second) the free slot that the load bound leaves -/
theorem Inv.elim {t : Table} (hi : Inv t) :
    Good t t.slots.size ∧ cnt t.key t.slots.size < t.slots.size ∧ (∃ m, 3 ≤ m ∧ t.slots.size = 2 ^ m) ∧
      t.entries = cnt t.key t.slots.size ∧ t.entries ≤ t.threshold ∧
      t.threshold = thresholdOf t.slots.size := by
  obtain ⟨N, hg, hpow, he, hle, hth⟩ := hi
  obtain rfl := hg.size
  exact ⟨hg, he ▸ Nat.lt_of_le_of_lt hle (hth ▸ thresholdOf_lt hg.wf.pos), hpow, he, hle, hth⟩

theorem find_abs (t : Table) (m : M) (hi : Inv t) (ha : Abs t m) (k : Nat) (hk : k ≠ 0) :
    find t k = some (lookup m k) := by
  obtain ⟨hg, hc, -⟩ := hi.elim
  obtain ⟨r, hf, hr⟩ := hg.find_iff hc hk
  rw [hf, Option.ext fun e => (hr e).trans (ha k hk e).symm]

theorem doubleIfNeeded_spec (t : Table) (hi : Inv t) :
    ∃ t', doubleIfNeeded t = some t' ∧ Inv t' ∧ t'.entries < t'.threshold ∧
      (ents t'.slots t'.slots.size).Perm (ents t.slots t.slots.size) := by
  unfold doubleIfNeeded
  by_cases hlt : t.entries < t.threshold
  · exact ⟨t, if_pos hlt, hi, hlt, .refl _⟩
  · obtain ⟨hg, hc, ⟨p, hp, hN⟩, he, hle, hth⟩ := hi.elim
    obtain ⟨t2, h2, hg2, hp2, he2⟩ := double_inv hg hc
    have hthr : t2.entries < thresholdOf t2.buckets := by
      rw [he2, show t2.buckets = 2 * t.slots.size from hg2.size]
      exact Nat.lt_of_le_of_lt (hth ▸ hle) (thresholdOf_double hg.wf.pos)
    rw [if_neg hlt, h2]
    exact ⟨_, rfl, ⟨_, hg2.congr rfl rfl,
      ⟨p + 1, Nat.le_succ_of_le hp, by rw [Nat.pow_succ, hN, Nat.mul_comm]⟩,
      he2.trans (he.trans (cnt_perm hp2).symm), Nat.le_of_lt hthr, congrArg thresholdOf hg2.size⟩,
      hthr, hg2.size ▸ hp2⟩

theorem findOrInsert_cases (t : Table) (m : M) (hi : Inv t) (ha : Abs t m) (k v : Nat)
    (hk : k ≠ 0) :
    (∃ e t', lookup m k = some e ∧ findOrInsert t (k, v) = some (true, e, t') ∧ Inv t' ∧
      Abs t' m) ∨
    (∃ t', lookup m k = none ∧ findOrInsert t (k, v) = some (false, (k, v), t') ∧ Inv t' ∧
      Abs t' ((k, v) :: m)) := by
  obtain ⟨t1, h1, hi1, hlt1, hp1⟩ := doubleIfNeeded_spec t hi
  have ha1 := ha.perm hp1
  obtain ⟨hg, hc, hpow, he, -, hth⟩ := hi1.elim
  rcases hg.probe_cases hc hk with ⟨j, hj, rfl, hpr⟩ | ⟨habs, l, hlN, hl0, hwalk, hpr⟩
  · exact .inl ⟨_, t1, (ha1 _ hk _).2 ⟨rfl, mem_ents.2 ⟨hk, j, hj, rfl⟩⟩,
      by simp only [findOrInsert, h1, hpr], hi1, ha1⟩
  · have hfull : ¬ (t1.entries + 1 ≥ t1.buckets) :=
      Nat.not_le.2 (Nat.lt_of_le_of_lt hlt1 (hth ▸ thresholdOf_lt hg.wf.pos))
    have hperm := ents_set (e := (k, v)) hlN hlN hl0 hk
    have hnone : lookup m k = none := Option.eq_none_iff_forall_ne_some.2 fun e h =>
      have ⟨h1, h2⟩ := (ha1 k hk e).1 h
      habs e h2 h1
    refine .inr ⟨{ t1 with slots := t1.slots.setIfInBounds l (k, v), entries := t1.entries + 1 }, hnone,
      by simp only [findOrInsert, h1, hpr, hfull, if_false], ?inv, ha1.cons habs ((size_set t1 l (k, v)).symm ▸ hperm)⟩
    -- `Inv` of the new table: `Good` by `Good.fill`, and one entry more is counted
    refine ⟨_, (hg.fill hlN hl0 hwalk hk habs).congr rfl rfl, hpow, ?_, Nat.succ_le_of_lt hlt1, hth⟩
    rw [← length_ents, hperm.length_eq, List.length_cons, length_ents, he]

/-- Key 0 is the empty-bucket mark: the walk stops at the first empty slot and reports it as a match, so the entry counts as
    found and nothing is stored (the table may still have doubled). -/
theorem findOrInsert_zero (t : Table) (m : M) (hi : Inv t) (ha : Abs t m) (v : Nat) :
    ∃ e t', findOrInsert t (0, v) = some (true, e, t') ∧ Inv t' ∧ Abs t' m := by
  obtain ⟨t1, h1, hi1, -, hp1⟩ := doubleIfNeeded_spec t hi
  obtain ⟨hg, hc, -⟩ := hi1.elim
  obtain ⟨x, hx, hx0⟩ := exists_empty _ _ hc
  obtain ⟨l, -, hl0, hpr, -⟩ := probe_reach hg.wf 0 (hg.wf.ideal_lt 0) (hg.size ▸ hx) (.inl hx0)
  rw [beq_iff_eq.mpr (hl0.elim id id)] at hpr
  exact ⟨t1.slots.getD l (0, 0), t1, by simp only [findOrInsert, h1, hpr], hi1, ha.perm hp1⟩

theorem step_spec (t : Table) (m : M) (hi : Inv t) (ha : Abs t m) (op : Op) (hk : opKey op ≠ 0) :
    ∃ t', step t op = some ((PV.Spec.Map.step m op).1, t') ∧ Inv t' ∧
      Abs t' (PV.Spec.Map.step m op).2 := by
  cases op with
  | insert k v =>
    simp only [PV.Table.step, PV.Spec.Map.step]
    rcases findOrInsert_cases t m hi ha k v hk with ⟨e, t', hl, hf, h⟩ | ⟨t', hl, hf, h⟩
    · rw [hf, hl]; exact ⟨t', rfl, h⟩
    · rw [hf, hl]; exact ⟨t', rfl, h⟩
  | find k =>
    refine ⟨t, ?_, hi, ha⟩
    simp only [PV.Table.step, PV.Spec.Map.step, find_abs t m hi ha k hk, Option.map_some]

theorem run_inv : ∀ (ops : List Op) (t : Table) (m : M), Inv t → Abs t m →
    (∀ op ∈ ops, opKey op ≠ 0) →
    ∃ t', run t ops = some ((PV.Spec.Map.run m ops).1, t') ∧ Inv t' ∧
      Abs t' (PV.Spec.Map.run m ops).2 := by
  intro ops
  induction ops with
  | nil => intro t m hi ha _; exact ⟨t, rfl, hi, ha⟩
  | cons op ops ih =>
    intro t m hi ha hk
    obtain ⟨t1, h1, hi1, ha1⟩ := step_spec t m hi ha op (hk op List.mem_cons_self)
    obtain ⟨t2, h2, hi2, ha2⟩ := ih t1 _ hi1 ha1 fun o ho => hk o (List.mem_cons_of_mem _ ho)
    exact ⟨t2, by simp only [PV.Table.run, h1, h2, PV.Spec.Map.run, Option.map_some], hi2, ha2⟩

theorem init_key (x : Nat) : init.key x = 0 := by
  unfold Table.key init
  simp only [Array.getD_eq_getD_getElem?, Array.getElem?_replicate]
  split <;> rfl

theorem init_inv : Inv init :=
  ⟨8, ⟨rfl, ⟨rfl, 3, rfl⟩, fun i _ _ _ hne => absurd (init_key i) hne,
      fun j _ hne => absurd (init_key j) hne⟩,
    ⟨3, Nat.le_refl _, rfl⟩, rfl, Nat.zero_le _, rfl⟩

theorem init_abs : Abs init [] := fun _ _ _ =>
  ⟨fun h => (nomatch h), fun h => by
    obtain ⟨hne, j, -, rfl⟩ := mem_ents.1 h.2
    exact absurd (init_key j) hne⟩

theorem inv_of_run {ops : List Op} {ans : List Ans} {t : Table} (h : ∀ op ∈ ops, opKey op ≠ 0)
    (hr : run init ops = some (ans, t)) : Inv t := by
  obtain ⟨t', ht', hi, -⟩ := run_inv ops init [] init_inv init_abs h
  cases hr.symm.trans ht'
  exact hi

theorem double_preserves_of_inv (t : Table) (hi : Inv t) :
    ∃ t', double t = some t' ∧ t'.buckets = 2 * t.buckets ∧
      ∀ k, k ≠ 0 → find t' k = find t k := by
  obtain ⟨hg, hc, -⟩ := hi.elim
  obtain ⟨t2, h2, hg2, hp2, -⟩ := double_inv hg hc
  refine ⟨t2, h2, hg2.size, fun k hk => ?_⟩
  obtain ⟨r, hf, hr⟩ := hg.find_iff hc hk
  obtain ⟨r', hf', hr'⟩ := hg2.find_iff (cnt_perm hp2 ▸ by omega) hk
  rw [hf, hf', Option.ext fun e =>
    (hr' e).trans ((and_congr_right fun _ => hp2.mem_iff).trans (hr e).symm)]

theorem shape_of_inv (t : Table) (hi : Inv t) :
    t.entries < t.buckets ∧ (∃ n, 3 ≤ n ∧ t.buckets = 2 ^ n) ∧ t.mask + 1 = t.buckets := by
  obtain ⟨hg, hc, hpow, he, -⟩ := hi.elim
  exact ⟨he ▸ hc, hpow, hg.wf.1⟩

end PV.Lemmas.Table
