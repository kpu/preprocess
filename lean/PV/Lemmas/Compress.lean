import PV.Model.Compress
/-
The writer controller (`wrun`): the bytes are conserved wherever it stands (`Bytes`), and at each control location more is known
(`At`).  The reader controller (`rrun`): a potential (`RInv.pot`) pays for every codec call, which bounds the calls per `read`.
-/
namespace PV.Lemmas.Compress
open PV.Compress

section writer

/-- the part of the writer invariant that holds wherever the controller stands. -/
structure Bytes (bufSize kMin : Nat) (s : WState) : Prop where
  bufSize_eq : s.bufSize = bufSize
  kMin_eq : s.kMin = kMin
  conserve : s.file ++ s.buf = List.range s.produced
  buf_len : s.buf.length = s.bufSize - s.availOut
  availOut_le : s.availOut ≤ s.bufSize
  input : s.consumed + s.availIn = s.given

/-- what is known at each point of the two loops. -/
def At : WMode → WState → Prop
  | .idle, s => s.availIn = 0 ∧ (s.dirty = false → s.buf = [])
  | .fl, s | .awaitFin, s => s.availIn = 0
  | .flDrained, s => s.availIn = 0 ∧ s.availOut = s.bufSize
  | .finDone, s => s.availIn = 0 ∧ 1 ≤ s.members
  | .drained, s => s.availOut = s.bufSize
  | .loop, _ | .awaitDid, _ => True

structure WInv (bufSize kMin : Nat) (s : WState) : Prop extends Bytes bufSize kMin s where
  mem : s.dirty = false → 1 ≤ s.members
  ctl : At s.mode s

variable {B K : Nat} {s s' : WState}

/-- the codec leaves `aout` of the output space: the bytes it produced get the next identities. -/
theorem Bytes.produce (h : Bytes B K s) {aout : Nat} (ha : aout ≤ s.availOut) :
    Bytes B K { s.produce (s.availOut - aout) with availOut := aout } :=
  { h with
    conserve := by
      show s.file ++ (s.buf ++ (List.range (s.availOut - aout)).map (· + s.produced)) = List.range (s.produced + _)
      rw [← List.append_assoc, h.conserve, List.range_add]
      congr 1
      exact List.map_congr_left fun x _ => Nat.add_comm ..
    buf_len := by
      simp only [WState.produce, List.length_append, List.length_map, List.length_range, h.buf_len]
      exact Nat.sub_add_sub_cancel h.availOut_le ha
    availOut_le := Nat.le_trans ha h.availOut_le }

theorem Bytes.drainAll (h : Bytes B K s) : Bytes B K s.drainAll :=
  { h with
    conserve := (List.append_nil _).trans h.conserve
    buf_len := (Nat.sub_self _).symm
    availOut_le := Nat.le_refl _ }

theorem winv_init (bufSize kMin : Nat) : WInv bufSize kMin (winit bufSize kMin) :=
  { bufSize_eq := rfl, kMin_eq := rfl, conserve := rfl, buf_len := (Nat.sub_self _).symm, availOut_le := Nat.le_refl _,
    input := rfl, mem := nofun, ctl := ⟨rfl, fun _ => rfl⟩ }

theorem winv_step {e} (hs : WInv B K s) (h : wstep s e = some s') : WInv B K s' := by
  have hc := hs.ctl
  cases e <;> rw [wstep] at h
  case write n =>
    obtain ⟨hm, rfl⟩ := Option.ite_some_none_eq_some.mp h
    rw [hm] at hc
    split
    · exact { hs with mem := nofun, ctl := hm ▸ ⟨hc.1, nofun⟩ }
    · exact { hs with
        input := by
          show s.consumed + n = s.given + n
          rw [← hs.input, hc.1]
          rfl
        ctl := trivial }
  case flush d =>
    obtain ⟨⟨hm, -⟩, rfl⟩ := Option.ite_some_none_eq_some.mp h
    rw [hm] at hc
    split
    · exact { hs with ctl := hc.1 }
    · exact hs
  case proc a b =>
    split at h
    · obtain ⟨-, rfl⟩ := Option.ite_some_none_eq_some.mp h
      exact { hs with ctl := trivial }
    · obtain ⟨-, rfl⟩ := Option.ite_some_none_eq_some.mp h
      exact { hs with ctl := trivial }
    · cases h
  case did a b =>
    obtain ⟨⟨-, ha, hb⟩, rfl⟩ := Option.ite_some_none_eq_some.mp h
    have hb : Bytes B K { s.produce (s.availOut - b) with
        availOut := b, availIn := a, consumed := s.consumed + (s.availIn - a) } :=
      { hs.produce hb with
        input := by
          show s.consumed + (s.availIn - a) + a = s.given
          rw [Nat.add_assoc, Nat.sub_add_cancel ha, hs.input] }
    split
    next h0 => exact { hb with mem := nofun, ctl := ⟨h0, nofun⟩ }
    · exact { hb with mem := hs.mem, ctl := trivial }
  case fin b =>
    split at h
    next hm =>
      rw [hm] at hc
      obtain ⟨-, rfl⟩ := Option.ite_some_none_eq_some.mp h
      exact { hs with ctl := hc }
    next hm =>
      rw [hm] at hc
      obtain ⟨-, rfl⟩ := Option.ite_some_none_eq_some.mp h
      exact { hs with ctl := hc.1 }
    next hm =>
      rw [hm] at hc
      obtain ⟨⟨hb, -⟩, rfl⟩ := Option.ite_some_none_eq_some.mp h
      exact { hs.produce hb with mem := hs.mem, ctl := hc }
    · cases h
  case findone b =>
    obtain ⟨⟨hm, hb⟩, rfl⟩ := Option.ite_some_none_eq_some.mp h
    rw [hm] at hc
    have hp := hs.produce hb
    split
    next hfull =>
      -- the codec left the whole buffer free: nothing is waiting in it
      have hnil := List.eq_nil_of_length_eq_zero
        (hp.buf_len.trans (Nat.sub_eq_zero_of_le (Nat.le_of_eq hfull.symm)))
      exact { hp with mem := fun _ => Nat.le_add_left .., ctl := ⟨hc, fun _ => hnil⟩ }
    · exact { hp with mem := fun _ => Nat.le_add_left .., ctl := ⟨hc, Nat.le_add_left ..⟩ }
  case drain n =>
    split at h
    · obtain ⟨-, rfl⟩ := Option.ite_some_none_eq_some.mp h
      exact { hs.drainAll with mem := hs.mem, ctl := rfl }
    next hm =>
      rw [hm] at hc
      obtain ⟨-, rfl⟩ := Option.ite_some_none_eq_some.mp h
      exact { hs.drainAll with mem := hs.mem, ctl := ⟨hc, rfl⟩ }
    next hm =>
      rw [hm] at hc
      obtain ⟨⟨-, ha, -⟩, rfl⟩ := Option.ite_some_none_eq_some.mp h
      exact { (hs.produce ha).drainAll with mem := hs.mem, ctl := ⟨hc, rfl⟩ }
    next hm =>
      rw [hm] at hc
      obtain ⟨-, rfl⟩ := Option.ite_some_none_eq_some.mp h
      exact { hs.drainAll with mem := fun _ => hc.2, ctl := ⟨hc.1, fun _ => rfl⟩ }
    · cases h

theorem winv_run {evs} (hs : WInv B K s) (h : wrun s evs = some s') : WInv B K s' := by
  induction evs generalizing s with
  | nil =>
    cases h
    exact hs
  | cons e es ih =>
    rw [wrun] at h
    split at h
    next s1 h1 => exact ih (winv_step hs h1) h
    · cases h

end writer

section reader

/-- what an accepted event does to the reader, one rule per way through `rstep`, with those of
    its guards that the invariants below need: `fail` and `more`, which `rstep` tells apart by a test
    none of them looks at, have the same premises; `again`'s `b ≤ 0` and `¬ (f && 0 == b)` are `rstep`'s guards at `nout = 0`. -/
inductive RStep (s : RState) : REv → RState → Prop
  | read {n} : s.mode = .idle → RStep s (.read n) { s with amount := n, nout := 0, mode := .head false }
  | input {f g} : s.mode = .head f → s.availIn = 0 →
      RStep s (.input g) { s with availIn := g, fed := s.fed + g, fresh := false, mode := .head (g == 0) }
  | proc {f a sp} : s.mode = .head f → (a ≠ 0 ∨ f) →
      RStep s (.proc a sp) { s with availIn := a, fed := s.fed + (a - s.availIn), fresh := false,
                                    mode := .awaitRes (f && a == 0) s.nout, steps := s.steps + 1 }
  | fail {f b a n} : s.mode = .awaitRes f b → a ≤ s.availIn → n ≤ s.amount →
      RStep s (.ok a n) { s with availIn := a, nout := n, mode := .failed }
  | again {f b a} : s.mode = .awaitRes f b → a ≤ s.availIn → b ≤ 0 → ¬ (f && 0 == b) = true →
      RStep s (.ok a 0) { s with availIn := a, nout := 0, mode := .head false }
  | more {f b a n} : s.mode = .awaitRes f b → a ≤ s.availIn → n ≤ s.amount →
      RStep s (.ok a n) { s with availIn := a, nout := n, mode := .retPending n }
  | end_ {f b a n} : s.mode = .awaitRes f b → n ≤ s.amount →
      RStep s (.end_ a n) { s with availIn := 0, nout := n, delivered := s.delivered + n, fresh := true, mode := .idle }
  | ret {n} : s.mode = .retPending n → RStep s (.ret n) { s with delivered := s.delivered + n, mode := .idle }

variable {s s' : RState} {e : REv}

theorem RStep.of_step (h : rstep s e = some s') : RStep s e s' := by
  cases e <;> rw [rstep] at h
  case read n =>
    obtain ⟨⟨hm, -⟩, rfl⟩ := Option.ite_some_none_eq_some.mp h
    exact .read hm
  case input g =>
    split at h
    next f hm =>
      obtain ⟨h0, rfl⟩ := Option.ite_some_none_eq_some.mp h
      exact .input hm h0
    · cases h
  case proc a sp =>
    split at h
    next f hm =>
      obtain ⟨⟨-, -, hf⟩, rfl⟩ := Option.ite_some_none_eq_some.mp h
      exact .proc hm hf
    · cases h
  case ok a n =>
    split at h
    next f b hm =>
      obtain ⟨⟨ha, hb, hn⟩, h⟩ := Option.ite_none_right_eq_some.mp h
      split at h
      · cases h
        exact .fail hm ha hn
      next hf =>
        split at h
        next h0 =>
          cases h
          subst h0
          exact .again hm ha hb hf
        · cases h
          exact .more hm ha hn
    · cases h
  case end_ a n =>
    split at h
    next f b hm =>
      obtain ⟨⟨-, -, hn⟩, rfl⟩ := Option.ite_some_none_eq_some.mp h
      exact .end_ hm hn
    · cases h
  case ret n =>
    split at h
    next m hm =>
      obtain ⟨rfl, rfl⟩ := Option.ite_some_none_eq_some.mp h
      exact .ret hm
    · cases h

theorem rrun_cons {es} (h : rrun s (e :: es) = some s') : ∃ s1, rstep s e = some s1 ∧ rrun s1 es = some s' := by
  rw [rrun] at h
  split at h
  next s1 h1 => exact ⟨s1, h1, h⟩
  · cases h

theorem rbound_run {evs} (hs : s.nout ≤ s.amount) (h : rrun s evs = some s') : s'.nout ≤ s'.amount := by
  induction evs generalizing s with
  | nil =>
    cases h
    exact hs
  | cons e es ih =>
    obtain ⟨s1, h1, h⟩ := rrun_cons h
    refine ih ?_ h
    cases RStep.of_step h1 with
    | read | again => exact Nat.zero_le _
    | fail _ _ hn | more _ _ hn => exact hn
    | end_ _ hn => exact hn
    | _ => exact hs

theorem rsteps_run (evs : List REv) (s s' : RState) (h : rrun s evs = some s') :
    s'.steps ≤ s.steps + evs.length := by
  induction evs generalizing s with
  | nil =>
    cases h
    exact Nat.le_refl _
  | cons e es ih =>
    obtain ⟨s1, h1, h⟩ := rrun_cons h
    have := ih s1 h
    -- every codec call is an event of its own
    have : s1.steps ≤ s.steps + 1 := by
      cases RStep.of_step h1 with
      | proc => exact Nat.le_refl _
      | _ => exact Nat.le_succ _
    rw [List.length_cons]
    omega

def isRead : REv → Bool
  | .read _ => true
  | _ => false

/-- one codec call is still owed to the Read call while it sits at the loop head. -/
def credit : RMode → Nat
  | .head _ => 1
  | _ => 0

/-- `r` counts the `read` events so far.  `pot` is the potential behind `reader_no_spin`: a codec call raises `steps`
    and spends the `credit` of the loop head; a `read` event brings that credit, and going round the loop restores it
    from the input the call consumed (`availIn` falls).  `flag`: a call made without input was made at end of file. -/
structure RInv (s : RState) (r : Nat) : Prop where
  pot : s.steps + s.availIn + credit s.mode ≤ s.fed + r
  flag : ∀ f b, s.mode = .awaitRes f b → s.availIn = 0 → f = true

/-- the contract of `progressOk` for the call the state is waiting on, whose answer heads `evs`. -/
def pendingOk (s : RState) (evs : List REv) : Prop :=
  ∀ f b ain nout, s.mode = .awaitRes f b → evs.head? = some (.ok ain nout) →
    s.availIn = 0 ∨ ain < s.availIn ∨ 0 < nout

theorem rinv_init (already : Nat) : RInv (rinit already) 0 :=
  ⟨Nat.le_of_eq (Nat.zero_add already), nofun⟩

theorem rinv_step {r es} (hs : RInv s r) (hp : pendingOk s (e :: es)) (h : rstep s e = some s') :
    RInv s' (r + if isRead e then 1 else 0) := by
  have hpot := hs.pot
  cases RStep.of_step h with
  | read hm =>
    simp only [hm, credit] at hpot
    exact ⟨Nat.succ_le_succ hpot, nofun⟩
  | @input _ g hm h0 =>
    simp only [hm, h0, credit] at hpot
    refine ⟨?_, nofun⟩
    show s.steps + g + 1 ≤ s.fed + g + r
    omega
  | @proc f a _ hm hf =>
    simp only [hm, credit] at hpot
    refine ⟨?_, ?_⟩
    · show s.steps + 1 + a + 0 ≤ s.fed + (a - s.availIn) + r
      omega
    · rintro _ _ ⟨rfl, -⟩ (rfl : a = 0)
      rcases hf with h | rfl
      · exact absurd rfl h
      · rfl
  | @again f b a hm ha hb hf =>
    simp only [hm, credit] at hpot
    refine ⟨?_, nofun⟩
    -- back at the loop head with no output: by the contract the call consumed input, unless there was
    -- none, and then the call was made at end of file (`flag`) and would have failed
    have : a < s.availIn := by
      rcases hp f b a 0 hm rfl with h0 | hlt | hpos
      · cases hs.flag f b hm h0
        cases Nat.le_zero.mp hb
        exact absurd rfl hf
      · exact hlt
      · exact absurd hpos (Nat.lt_irrefl 0)
    show s.steps + a + 1 ≤ s.fed + r
    omega
  | @fail _ _ a _ hm ha | @more _ _ a _ hm ha =>
    simp only [hm, credit] at hpot
    refine ⟨?_, nofun⟩
    show s.steps + a + 0 ≤ s.fed + r
    omega
  | end_ =>
    refine ⟨?_, nofun⟩
    show s.steps + 0 + 0 ≤ s.fed + r
    omega
  | ret hm =>
    simp only [hm, credit] at hpot
    exact ⟨hpot, nofun⟩

theorem progressOk_tail {e : REv} {es : List REv} (h : progressOk (e :: es) = true) : progressOk es = true := by
  unfold progressOk at h
  split at h
  next heq =>
    cases heq
    exact (Bool.and_eq_true_iff.mp h).2
  next heq =>
    cases heq
    exact h
  next heq => cases heq

theorem progressOk_head {a b a' n : Nat} {rest : List REv}
    (h : progressOk (.proc a b :: .ok a' n :: rest) = true) : a = 0 ∨ a' < a ∨ 0 < n := by
  simp only [progressOk, Bool.and_eq_true, Bool.or_eq_true, decide_eq_true_eq] at h
  omega

theorem rinv_run {evs r} (hs : RInv s r) (hh : pendingOk s evs) (hp : progressOk evs = true)
    (h : rrun s evs = some s') : RInv s' (r + evs.countP isRead) := by
  induction evs generalizing s r with
  | nil =>
    cases h
    exact hs
  | cons e es ih =>
    obtain ⟨s1, h1, h⟩ := rrun_cons h
    have hh1 : pendingOk s1 es := fun f b ain nout hm he2 => by
      obtain ⟨rest, rfl⟩ := List.head?_eq_some_iff.mp he2
      -- only a `proc` event leads into `awaitRes`, and it fixes the input the codec is called with
      cases RStep.of_step h1 with
      | proc => exact progressOk_head hp
      | _ => cases hm
    have := ih (rinv_step hs hh h1) hh1 (progressOk_tail hp) h
    rw [List.countP_cons, Nat.add_comm (List.countP isRead es), ← Nat.add_assoc]
    exact this

/-- A codec call made at end of file (`.head true`) that consumes nothing and leaves `nout` where it was fails the read: holds of
    every state in that mode, reachable or not, whatever `availIn` is. -/
theorem truncated_fails {s s1 s2 : RState} (hm : s.mode = .head true) (space : Nat)
    (h1 : rstep s (.proc 0 space) = some s1) (h2 : rstep s1 (.ok 0 s.nout) = some s2) : s2.mode = .failed := by
  simp only [rstep, hm] at h1
  obtain ⟨-, rfl⟩ := Option.ite_some_none_eq_some.mp h1
  -- `s1` waits in `.awaitRes true s.nout`, and the answer leaves `nout` where it was: `rstep`'s test for a truncated stream
  obtain ⟨-, h2⟩ := Option.ite_none_right_eq_some.mp h2
  rw [if_pos (by rw [beq_self_eq_true s.nout]; rfl)] at h2
  cases h2
  rfl

end reader

end PV.Lemmas.Compress
