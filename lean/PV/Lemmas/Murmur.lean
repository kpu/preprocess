import PV.Model.Murmur
import PV.Spec.Murmur
/-
Helper lemmas for C14: the index-based MurmurHash64A model agrees with the list-chunking
reference, and never reads out of bounds.
-/
namespace PV.Lemmas.Murmur
open PV.Murmur PV.Spec.Murmur

theorem m_eq : m = M := by decide
theorem r_eq : r = R := by decide

theorem mixBlock_eq (h k : UInt64) : mixBlock h k = mix h k := by
  simp only [mixBlock, mix, m_eq, r_eq]

theorem or_left_comm (a b c : UInt64) : a ||| (b ||| c) = b ||| (a ||| c) := by
  rw [← UInt64.or_assoc, UInt64.or_comm a b, UInt64.or_assoc]
theorem xor_left_comm (a b c : UInt64) : a ^^^ (b ^^^ c) = b ^^^ (a ^^^ c) := by
  rw [← UInt64.xor_assoc, UInt64.xor_comm a b, UInt64.xor_assoc]

/-- a byte or-ed below a value shifted by 8 occupies disjoint bits, so `|||` is `^^^`. -/
theorem or_byte_eq_xor (x : UInt64) (b : UInt8) :
    (x <<< 8) ||| UInt64.ofNat b.toNat = (x <<< 8) ^^^ UInt64.ofNat b.toNat := by
  apply UInt64.toBitVec_inj.1
  apply BitVec.eq_of_getLsbD_eq
  intro i hi
  simp
  by_cases h8 : i < 8
  · simp [h8]
  · have : b.toBitVec.getLsbD i = false := BitVec.getLsbD_of_ge _ _ (by omega)
    simp [this]

theorem shl_byte (x : UInt64) {k : Nat} (hk : k < 7) :
    (x <<< 8) <<< UInt64.ofNat (8 * k) = x <<< UInt64.ofNat (8 * (k + 1)) := by
  rw [Nat.mul_succ, Nat.add_comm, UInt64.ofNat_add]
  refine (UInt64.shiftLeft_add_of_toNat_lt ?_).symm
  rw [UInt64.toNat_ofNat_of_lt' (n := 8 * k) (Nat.lt_trans (show 8 * k < 64 by omega) (by decide))]
  show 8 + 8 * k < 64
  omega

-- `le` is `PV.Spec.Murmur.le`, the little-endian value of a byte list (no order is meant)
theorem le_nil : le [] = 0 := rfl
theorem le_cons (a : UInt8) (t : List UInt8) :
    le (a :: t) = (le t <<< 8) ||| UInt64.ofNat a.toNat := rfl
theorem le_cons_xor (a : UInt8) (t : List UInt8) :
    le (a :: t) = (le t <<< 8) ^^^ UInt64.ofNat a.toNat := by
  rw [le_cons, or_byte_eq_xor]

/-- `shl_byte` for a little-endian value that fits the word after the shift (the value of no
    bytes is zero however far it is shifted). -/
theorem le_shl_byte (t : List UInt8) {k : Nat} (h : k + t.length ≤ 7) :
    (le t <<< 8) <<< UInt64.ofNat (8 * k) = le t <<< UInt64.ofNat (8 * (k + 1)) := by
  cases t with
  | nil => simp only [le_nil, UInt64.zero_shiftLeft]
  | cons a t => exact shl_byte _ (Nat.lt_of_lt_of_le (Nat.lt_add_of_pos_right (Nat.succ_pos _)) h)

/-- `acc ||| b₀ <<< 8k ||| b₁ <<< 8(k+1) ||| …`: the way `load64` puts a word together. -/
def orUp (acc : UInt64) : List UInt8 → Nat → UInt64
  | [], _ => acc
  | a :: t, k => orUp (acc ||| UInt64.ofNat a.toNat <<< UInt64.ofNat (8 * k)) t (k + 1)

/-- `h ^^^ … ^^^ b₁ <<< 8(k+1) ^^^ b₀ <<< 8k`, highest byte first: the fall-through `switch` of `tail`. -/
def xorDown (h : UInt64) : List UInt8 → Nat → UInt64
  | [], _ => h
  | a :: t, k => xorDown h t (k + 1) ^^^ UInt64.ofNat a.toNat <<< UInt64.ofNat (8 * k)

theorem orUp_eq (acc : UInt64) (t : List UInt8) (k : Nat) (h : k + t.length ≤ 8) :
    orUp acc t k = acc ||| le t <<< UInt64.ofNat (8 * k) := by
  induction t generalizing acc k with
  | nil => rw [orUp, le_nil, UInt64.zero_shiftLeft, UInt64.or_zero]
  | cons a t ih =>
    rw [List.length_cons] at h
    rw [orUp, ih _ _ (by omega), le_cons, UInt64.shiftLeft_or, le_shl_byte t (by omega), UInt64.or_assoc,
      UInt64.or_comm (le t <<< _)]

theorem xorDown_eq (x : UInt64) (t : List UInt8) (k : Nat) (h : k + t.length ≤ 8) :
    xorDown x t k = x ^^^ le t <<< UInt64.ofNat (8 * k) := by
  induction t generalizing k with
  | nil => rw [xorDown, le_nil, UInt64.zero_shiftLeft, UInt64.xor_zero]
  | cons a t ih =>
    rw [List.length_cons] at h
    rw [xorDown, ih _ (by omega), le_cons_xor, UInt64.shiftLeft_xor, le_shl_byte t (by omega), UInt64.xor_assoc]

theorem rd_toArray (l : List UInt8) (off k : Nat) :
    rd l.toArray (off + k) = ((l.drop off)[k]?).map (fun b => UInt64.ofNat b.toNat) := by
  simp [rd, List.getElem?_drop]

theorem rd_toArray0 (l : List UInt8) (off : Nat) :
    rd l.toArray off = ((l.drop off)[0]?).map (fun b => UInt64.ofNat b.toNat) :=
  rd_toArray l off 0

/- In the next two proofs the bytes read are named by `rcases` (a `match` on a list pattern eight
   deep is very slow to compile); what the model computes on a list of known length is then
   `orUp` / `xorDown` up to unfolding. -/

theorem load64_eq (l : List UInt8) (off : Nat) (h : off + 8 ≤ l.length) :
    load64 l.toArray off = some (le ((l.drop off).take 8)) := by
  have hd : 8 ≤ (l.drop off).length := List.length_drop ▸ Nat.le_sub_of_add_le' h
  simp only [load64, rd_toArray]
  simp only [rd_toArray0]
  generalize l.drop off = d at hd
  rcases d with _ | ⟨a0, _ | ⟨a1, _ | ⟨a2, _ | ⟨a3, _ | ⟨a4, _ | ⟨a5, _ | ⟨a6, _ | ⟨a7, rest⟩⟩⟩⟩⟩⟩⟩⟩
  case cons.cons.cons.cons.cons.cons.cons.cons =>
    exact congrArg some ((orUp_eq _ [a1, a2, a3, a4, a5, a6, a7] 1 (Nat.le_refl 8)).trans (UInt64.or_comm ..))
  all_goals exact absurd hd (by simp)

theorem tail_eq (l : List UInt8) (base rem : Nat) (h : UInt64) (hrem : rem < 8)
    (hlen : base + rem = l.length) :
    tail l.toArray base rem h = some (body 1 (l.drop base) h) := by
  have hd : (l.drop base).length = rem := by rw [List.length_drop, ← hlen, Nat.add_sub_cancel_left]
  simp only [tail, rd_toArray]
  simp only [rd_toArray0]
  generalize l.drop base = d at hd
  subst hd
  have key (a : UInt8) (t : List UInt8) (ht : (a :: t).length < 8) :
      some ((xorDown h t 1 ^^^ UInt64.ofNat a.toNat) * m) = some (body 1 (a :: t) h) := by
    rw [body, if_neg (Nat.not_le_of_lt ht), if_neg (show ¬ (a :: t).isEmpty = true from Bool.false_ne_true),
      le_cons_xor, ← UInt64.xor_assoc, xorDown_eq h t 1 (Nat.add_comm .. ▸ Nat.le_of_lt ht), m_eq]
    rfl
  rcases d with _ | ⟨a0, _ | ⟨a1, _ | ⟨a2, _ | ⟨a3, _ | ⟨a4, _ | ⟨a5, _ | ⟨a6, _ | ⟨a7, rest⟩⟩⟩⟩⟩⟩⟩⟩
  · rfl
  · exact key a0 [] hrem
  · exact key a0 [a1] hrem
  · exact key a0 [a1, a2] hrem
  · exact key a0 [a1, a2, a3] hrem
  · exact key a0 [a1, a2, a3, a4] hrem
  · exact key a0 [a1, a2, a3, a4, a5] hrem
  · exact key a0 [a1, a2, a3, a4, a5, a6] hrem
  · exact absurd hrem (by simp)

/-- The block loop: `n` blocks from block `i` on are read in bounds and do what `n` units of `body`'s fuel do.
    `murmurRef` gives `body` `length / 8 + 1` units, one for every block and one for the tail. -/
theorem blocks_eq (l : List UInt8) : ∀ (n i : Nat) (h : UInt64), 8 * (i + n) ≤ l.length →
    ∃ h', blocks l.toArray n i h = some h' ∧
      ∀ fuel, body (n + fuel) (l.drop (8 * i)) h = body fuel (l.drop (8 * (i + n))) h'
  | 0, i, h, _ => ⟨h, rfl, fun fuel => by rw [Nat.zero_add, Nat.add_zero]⟩
  | n + 1, i, h, hle => by
    have e : i + (n + 1) = i + 1 + n := (Nat.add_right_comm i 1 n).symm
    have hi : 8 * i + 8 ≤ l.length := by omega
    obtain ⟨h', hb, hbody⟩ := blocks_eq l n (i + 1) (mixBlock h (le ((l.drop (8 * i)).take 8))) (e ▸ hle)
    refine ⟨h', ?_, fun fuel => ?_⟩
    · simp only [blocks, load64_eq l (8 * i) hi]
      exact hb
    · have hlen : (l.drop (8 * i)).length ≥ 8 := List.length_drop ▸ Nat.le_sub_of_add_le' hi
      rw [Nat.add_right_comm, body, if_pos hlen, List.drop_drop, ← mixBlock_eq, e]
      exact hbody fuel

theorem hash64A?_eq (l : List UInt8) (seed : UInt64) :
    hash64A? l.toArray seed = some (murmurRef l seed) := by
  obtain ⟨h', hb, hbody⟩ := blocks_eq l (l.length / 8) 0 (seed ^^^ (UInt64.ofNat l.length * m))
    ((Nat.zero_add _).symm ▸ Nat.mul_div_le ..)
  have ht := tail_eq l (8 * (l.length / 8)) (l.length % 8) h' (Nat.mod_lt _ (by decide)) (Nat.div_add_mod ..)
  have hb1 := hbody 1
  simp only [Nat.mul_zero, List.drop_zero, Nat.zero_add] at hb1
  simp only [hash64A?, List.size_toArray, hb, ht, murmurRef, finalize, Option.bind_some,
    Option.bind_eq_bind, Option.pure_def]
  rw [m_eq] at hb1
  simp only [m_eq, r_eq, hb1]

theorem hash64A?_isSome (bs : Array UInt8) (seed : UInt64) : (hash64A? bs seed).isSome = true := by
  rw [← bs.toArray_toList, hash64A?_eq]
  rfl

end PV.Lemmas.Murmur
