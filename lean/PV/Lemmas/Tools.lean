import PV.Model.Tools
import PV.Lemmas.FirstOcc
import PV.Lemmas.Table
import PV.Lemmas.Utf8
/-
The line tools against their list specifications.  These tools only ask the table whether a key is there, so in this
file it enters only through `Seen t s` and its two step lemmas (substitute and MutableVocab also read the stored values
and have relations `Rep` of their own); each tool's loop is then one induction over the lines.  commoncrawl_dedupe is a
first-occurrence pass between two filters (`ccSpec`), so what is known of `firstOccGo` carries over.
-/
namespace PV.Lemmas.Tools
open PV.Tools PV.Spec.FirstOcc PV.Lemmas.FirstOcc

section Seen
open PV.Table PV.Spec.Map PV.Lemmas.Table

def keys (m : M) : List Nat := m.map Prod.fst

theorem keys_nil : keys [] = [] := rfl
theorem keys_cons (e : Nat × Nat) (m : M) : keys (e :: m) = e.1 :: keys m := rfl

theorem lookup_isSome_iff (m : M) (k : Nat) : (lookup m k).isSome ↔ k ∈ keys m := by
  rw [lookup, List.find?_isSome, keys, List.mem_map]
  exact exists_congr fun e => and_congr_right fun _ => beq_iff_eq

/-- The table holds exactly the keys in `s`: it is well-formed and some abstract map with this key set describes it.
    Only membership in `s` matters. -/
def Seen (t : Table) (s : List Nat) : Prop := Inv t ∧ ∃ m, Abs t m ∧ ∀ k, k ∈ s ↔ k ∈ keys m

theorem seen_init : Seen init [] := ⟨init_inv, [], init_abs, fun _ => Iff.rfl⟩

theorem Seen.congr {t : Table} {s s' : List Nat} (h : Seen t s) (hs : ∀ k, k ∈ s' ↔ k ∈ s) : Seen t s' :=
  ⟨h.1, h.2.imp fun _ ⟨ha, hm⟩ => ⟨ha, fun k => (hs k).trans (hm k)⟩⟩

theorem Seen.findOrInsert {t : Table} {s : List Nat} (h : Seen t s) {k : Nat} (hk : k ≠ 0) (v : Nat) :
    (k ∈ s ∧ ∃ e t', findOrInsert t (k, v) = some (true, e, t') ∧ Seen t' s) ∨
    (k ∉ s ∧ ∃ e t', findOrInsert t (k, v) = some (false, e, t') ∧ Seen t' (k :: s)) := by
  obtain ⟨hi, m, ha, hs⟩ := h
  have hm : k ∈ s ↔ (lookup m k).isSome := (hs k).trans (lookup_isSome_iff m k).symm
  rcases findOrInsert_cases t m hi ha k v hk with ⟨e, t', hl, hf, hi', ha'⟩ | ⟨t', hl, hf, hi', ha'⟩
  · exact .inl ⟨hm.2 (hl ▸ rfl), e, t', hf, hi', m, ha', hs⟩
  · exact .inr ⟨mt hm.1 (hl ▸ Bool.false_ne_true), _, t', hf, hi', _, ha', fun x => by
      rw [keys_cons, List.mem_cons, List.mem_cons, hs x]⟩

theorem Seen.find {t : Table} {s : List Nat} (h : Seen t s) {k : Nat} (hk : k ≠ 0) :
    ∃ r, find t k = some r ∧ r.isSome = decide (k ∈ s) := by
  obtain ⟨hi, m, ha, hs⟩ := h
  refine ⟨_, find_abs t m hi ha k hk, ?_⟩
  rw [Bool.eq_iff_iff, lookup_isSome_iff, decide_eq_true_iff, hs k]

theorem Seen.findOrInsert_zero {t : Table} {s : List Nat} (h : Seen t s) (v : Nat) :
    ∃ e t', PV.Table.findOrInsert t (0, v) = some (true, e, t') ∧ Seen t' s := by
  obtain ⟨hi, m, ha, hs⟩ := h
  obtain ⟨e, t', hf, hi', ha'⟩ := PV.Lemmas.Table.findOrInsert_zero t m hi ha v
  exact ⟨e, t', hf, hi', m, ha', hs⟩

/-- dedupe on any input: a line whose key is 0, the table's mark for an empty bucket, is dropped wherever it stands; on the
    other lines the loop is the first-occurrence pass. -/
theorem dedupeLoop_eq (key : Line → Nat) (ls : List Line) : ∀ {t : Table} {s : List Nat}, Seen t s →
    dedupeLoop key t ls = some (firstOccGo key s (ls.filter (key · ≠ 0))) := by
  induction ls with
  | nil => intro _ _ _; rfl
  | cons l ls ih =>
    intro t s h
    by_cases hl : key l = 0
    · obtain ⟨_, t', hf, h'⟩ := h.findOrInsert_zero 0
      rw [List.filter_cons_of_neg (by simpa using hl), dedupeLoop, hl, hf]
      simp only [ih h', if_true]
    · rw [List.filter_cons_of_pos (by simpa using hl)]
      rcases h.findOrInsert hl 0 with ⟨hm, _, t', hf, h'⟩ | ⟨hm, _, t', hf, h'⟩
      · simp only [dedupeLoop, hf, ih h', firstOccGo_cons, if_pos hm, if_true]
      · simp only [dedupeLoop, hf, ih h', firstOccGo_cons, if_neg hm, Bool.false_eq_true, if_false]

theorem dedupeLoop_spec (key : Line → Nat) (ls : List Line) {t : Table} {s : List Nat} (h : Seen t s)
    (h0 : ∀ l ∈ ls, key l ≠ 0) : dedupeLoop key t ls = some (firstOccGo key s ls) := by
  rw [dedupeLoop_eq key ls h, List.filter_eq_self.2 fun l hl => decide_eq_true (h0 l hl)]

theorem dedupeParLoop_spec (key : Line → Nat) (ps : List (Line × Line)) :
    ∀ {t0 t1 : Table} {s0 s1 : List Nat}, Seen t0 s0 → Seen t1 s1 →
    (∀ p ∈ ps, key p.1 ≠ 0 ∧ key p.2 ≠ 0) →
    dedupeParLoop key t0 t1 ps = some (parGo key s0 s1 ps) := by
  induction ps with
  | nil => intro _ _ _ _ _ _ _; rfl
  | cons p ps ih =>
    intro t0 t1 s0 s1 h0 h1 hk
    obtain ⟨a, b⟩ := p
    obtain ⟨⟨ha, hb⟩, hk'⟩ := List.forall_mem_cons.1 hk
    rw [dedupeParLoop, parGo_cons]
    rcases h0.findOrInsert ha 0 with ⟨hm0, _, t0', hf0, h0'⟩ | ⟨hm0, _, t0', hf0, h0'⟩
    · simp only [hf0, if_pos hm0, if_true]
      exact ih h0' h1 hk'
    · rcases h1.findOrInsert hb 0 with ⟨hm1, _, t1', hf1, h1'⟩ | ⟨hm1, _, t1', hf1, h1'⟩
      · simp only [hf0, hf1, ih h0' h1' hk', if_neg hm0, if_pos hm1, Bool.false_eq_true, if_false, if_true]
      · simp only [hf0, hf1, ih h0' h1' hk', if_neg hm0, if_neg hm1, Bool.false_eq_true, if_false]

/-- Newest key first, as `Seen.findOrInsert` conses them.  By `Seen.congr` the order means nothing; this is the list
    C18's `ccdedupe_spec` names. -/
theorem loadSet_spec (key : Line → Nat) (ls : List Line) : ∀ {t : Table} {s : List Nat}, Seen t s →
    (∀ l ∈ ls, key l ≠ 0) → ∃ t', loadSet key t ls = some t' ∧ Seen t' ((ls.map key).reverse ++ s) := by
  induction ls with
  | nil => exact fun h _ => ⟨_, rfl, h⟩
  | cons l ls ih =>
    intro t s h h0
    obtain ⟨hk, h0'⟩ := List.forall_mem_cons.1 h0
    rw [loadSet, List.map_cons, List.reverse_cons, List.append_assoc]
    rcases h.findOrInsert hk 0 with ⟨hm, _, t1, hf, h1⟩ | ⟨hm, _, t1, hf, h1⟩
    · obtain ⟨t', hl, h'⟩ := ih h1 h0'
      refine ⟨t', by rw [hf]; exact hl, h'.congr fun k => ?_⟩
      rw [List.mem_append, List.mem_append, List.mem_append, List.mem_singleton]
      exact or_congr_right (or_iff_right_of_imp fun e => e ▸ hm)
    · obtain ⟨t', hl, h'⟩ := ih h1 h0'
      exact ⟨t', by rw [hf]; exact hl, h'⟩

theorem subtractLoop_spec (key : Line → Nat) (ls : List Line) {t : Table} {s : List Nat} (h : Seen t s)
    (h0 : ∀ l ∈ ls, key l ≠ 0) : subtractLoop key t ls = some (ls.filter (fun l => decide (key l ∉ s))) := by
  induction ls with
  | nil => rfl
  | cons l ls ih =>
    obtain ⟨hl, h0'⟩ := List.forall_mem_cons.1 h0
    obtain ⟨r, hf, hr⟩ := h.find hl
    simp only [subtractLoop, hf, hr, ih h0', List.filter_cons, decide_not]
    cases decide (key l ∈ s) <;> rfl

/-- what commoncrawl_dedupe keeps -/
def ccSpec (key : Line → Nat) (seen : List Nat) (ls : List Line) : List Line :=
  (firstOccGo key seen ((ls.map stripSpaces).filter fun l => !ccMagic.isPrefixOf l)).filter PV.Utf8.isUTF8

theorem ccSpec_cons (key : Line → Nat) (seen : List Nat) (l : Line) (ls : List Line) :
    ccSpec key seen (l :: ls) =
      if ccMagic.isPrefixOf (stripSpaces l) then ccSpec key seen ls
      else if key (stripSpaces l) ∈ seen then ccSpec key seen ls
      else if PV.Utf8.isUTF8 (stripSpaces l) then
        stripSpaces l :: ccSpec key (key (stripSpaces l) :: seen) ls
      else ccSpec key (key (stripSpaces l) :: seen) ls := by
  unfold ccSpec
  rw [List.map_cons, List.filter_cons]
  cases ccMagic.isPrefixOf (stripSpaces l)
  · simp only [Bool.false_eq_true, if_false, Bool.not_false, if_true, firstOccGo_cons]
    split
    · rfl
    · rw [List.filter_cons]
  · simp only [if_true, Bool.not_true, Bool.false_eq_true, if_false]

theorem mem_ccSpec (key : Line → Nat) (seen : List Nat) (ls : List Line) (x : Line) (h : x ∈ ccSpec key seen ls) :
    PV.Utf8.isUTF8 x = true ∧ key x ∉ seen :=
  have h := List.mem_filter.mp h
  ⟨h.2, ((mem_map_firstOccGo key _ _ _).1 (List.mem_map_of_mem h.1)).2⟩

theorem ccSpec_nodup (key : Line → Nat) (seen : List Nat) (ls : List Line) : ((ccSpec key seen ls).map key).Nodup :=
  (List.filter_sublist.map key).nodup (firstOccGo_nodup key seen _)

theorem ccLoop_spec (key : Line → Nat) (ls : List Line) : ∀ {t : Table} {s : List Nat}, Seen t s →
    (∀ l ∈ ls, key (stripSpaces l) ≠ 0) → ccLoop key t ls = some (ccSpec key s ls) := by
  induction ls with
  | nil => intro _ _ _ _; rfl
  | cons l ls ih =>
    intro t s h h0
    obtain ⟨hl, h0'⟩ := List.forall_mem_cons.1 h0
    rw [ccSpec_cons]
    by_cases hmag : ccMagic.isPrefixOf (stripSpaces l) = true
    · simp only [ccLoop, hmag, if_true]
      exact ih h h0'
    · rcases h.findOrInsert hl 0 with ⟨hm, _, t', hf, h'⟩ | ⟨hm, _, t', hf, h'⟩
      · simp only [ccLoop, hmag, hf, ih h' h0', if_pos hm, Bool.false_eq_true, if_false, Bool.not_true,
          Bool.false_and]
      · simp only [ccLoop, hmag, hf, ih h' h0', if_neg hm, Bool.false_eq_true, if_false, Bool.not_false,
          Bool.true_and]

end Seen

section Shard
variable {α : Type}

theorem flatten_range_filter_perm (g : α → Nat) (ls : List α) (n : Nat) :
    (((List.range n).map (fun i => ls.filter (fun l => g l == i))).flatten).Perm
      (ls.filter (fun l => decide (g l < n))) := by
  induction n with
  | zero => simp
  | succ n ih =>
    rw [List.range_succ, List.map_append, List.flatten_append, List.map_singleton, List.flatten_singleton]
    -- split the lines with `g l < n + 1` by `g l < n`
    have h := List.filter_append_perm (fun l => decide (g l < n)) (ls.filter fun l => decide (g l < n + 1))
    rw [List.filter_filter, List.filter_filter] at h
    refine ((ih.append_right _).trans ?_).trans h
    apply List.Perm.of_eq
    congr 1
    · exact List.filter_congr fun l _ => by
        rw [← Bool.decide_and, decide_eq_decide]; omega
    · exact List.filter_congr fun l _ => by
        rw [Bool.eq_iff_iff, beq_iff_eq, ← decide_not, ← Bool.decide_and, decide_eq_true_iff]; omega

theorem shard_firstOcc (key : Line → Nat) (n : Nat) (ls : List Line) :
    (shard key n ls).map (firstOccBy key) = shard key n (firstOccBy key ls) := by
  rw [shard, List.map_map]
  exact List.map_congr_left fun i _ => firstOccGo_filter key (fun k => k % n == i) [] ls

end Shard

section Filters

theorem isUTF8_iff (bs : List UInt8) :
    PV.Utf8.isUTF8 bs = true ↔ PV.Spec.Utf8.WellFormed bs :=
  PV.Lemmas.Utf8.isUTF8_iff bs

theorem removeInvalidUtf8Base64_nil : removeInvalidUtf8Base64 [] = some [] := rfl

theorem removeInvalidUtf8Base64_cons (l : Line) (ls : List Line) :
    removeInvalidUtf8Base64 (l :: ls) =
      match PV.Base64.decode l, removeInvalidUtf8Base64 ls with
      | .ok d, some rest =>
        some ((if PV.Utf8.isUTF8 d then l else PV.Base64.encode []) :: rest)
      | _, _ => none := by
  rw [removeInvalidUtf8Base64]
  rfl

end Filters

section Names

theorem padLeft_decode (w i : Nat) :
    Nat.ofDigitChars 10 (padLeft w (toString i)).toList 0 = i := by
  -- leading zeros leave the value at 0; then come the decimal digits of `i`
  rw [padLeft, String.toList_append, Nat.ofDigitChars_append, String.toList_ofList, Nat.ofDigitChars_replicate_zero,
    Nat.mul_zero, Nat.toString_eq_repr, Nat.toList_repr, Nat.ofDigitChars_ten_toDigits]

theorem shardNames_nodup (pfx : String) (n : Nat) : (shardNames pfx n).Nodup := by
  rw [shardNames, List.Nodup, List.pairwise_map]
  refine List.pairwise_lt_range.imp fun {i j} hij h => ?_
  -- the names decode to their indices
  have h' := congrArg (fun s => Nat.ofDigitChars 10 s.toList 0) ((String.append_right_inj pfx).1 h)
  simp only [padLeft_decode] at h'
  omega

end Names
end PV.Lemmas.Tools
