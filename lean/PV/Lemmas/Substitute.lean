import PV.Model.Substitute
import PV.Lemmas.Table
/-
C13 through the `substitute` tool: the loop over the real hash-table model equals the association-list
specification.
-/
namespace PV.Lemmas.Substitute
open PV.Substitute PV.Tools PV.Fields PV.Table PV.Spec.Map PV.Lemmas.Table

/-- The table with the string pool `stored` holds the specification's association list `seen`: an abstract map of the
    table lists the keys of `seen` in the same order, each with the pool position of its value. -/
def Rep (t : Table) (stored : List Line) (seen : List (Nat × Line)) : Prop :=
  Inv t ∧ ∃ m, Abs t m ∧ (∀ e ∈ m, e.2 < stored.length) ∧
    seen = m.map fun e => (e.1, stored.getD e.2 [])

theorem rep_init : Rep init [] [] := ⟨init_inv, [], init_abs, nofun, rfl⟩

/-- `v` is the value the tool appends to the pool after an insertion. -/
theorem Rep.findOrInsert {t : Table} {stored : List Line} {seen : List (Nat × Line)}
    (h : Rep t stored seen) {k : Nat} (hk : k ≠ 0) (v : Line) :
    (∃ e t', seen.find? (·.1 == k) = some (e.1, stored.getD e.2 []) ∧
        findOrInsert t (k, stored.length) = some (true, e, t') ∧ Rep t' stored seen) ∨
    (∃ e t', seen.find? (·.1 == k) = none ∧
        findOrInsert t (k, stored.length) = some (false, e, t') ∧
        Rep t' (stored ++ [v]) ((k, v) :: seen)) := by
  obtain ⟨hi, m, ha, hlt, rfl⟩ := h
  have hfind : (m.map fun e => (e.1, stored.getD e.2 [])).find? (·.1 == k) =
      (lookup m k).map fun e => (e.1, stored.getD e.2 []) := List.find?_map
  rw [hfind]
  rcases findOrInsert_cases t m hi ha k stored.length hk with ⟨e, t', hl, hf, hi', ha'⟩ | ⟨t', hl, hf, hi', ha'⟩
  · exact .inl ⟨e, t', by rw [hl]; rfl, hf, hi', m, ha', hlt, rfl⟩
  · refine .inr ⟨_, t', by rw [hl]; rfl, hf, hi', _, ha', ?_, ?_⟩
    · intro e he
      rw [List.length_append, List.length_singleton]
      rcases List.mem_cons.1 he with rfl | he
      · exact Nat.lt_succ_self _
      · exact Nat.lt_succ_of_lt (hlt e he)
    -- the new entry points at the appended value; the positions of the old ones are below `stored.length`
    · rw [List.map_cons, List.getD_eq_getElem?_getD, List.getElem?_concat_length]
      refine congrArg _ (List.map_congr_left fun e he => ?_)
      rw [List.getD_eq_getElem?_getD, List.getD_eq_getElem?_getD, List.getElem?_append_left (hlt e he)]

theorem loop_spec (ls : List Line) : ∀ {t : Table} {stored : List Line} {seen : List (Nat × Line)},
    Rep t stored seen →
    (∀ l ∈ ls, ∀ p0 p1 p2 p3, rangeFields l ranges 9 = [p0, p1, p2, p3] → key p1 ≠ 0) →
    loop t stored ls = specGo seen ls := by
  induction ls with
  | nil => intro _ _ _ _ _; rfl
  | cons l ls ih =>
    intro t stored seen h h0
    obtain ⟨hl, h0'⟩ := List.forall_mem_cons.1 h0
    rw [loop, specGo]
    -- both sides match on the fields of `l`: one `split` decides both
    split
    · next p0 p1 p2 p3 hf =>
      rcases h.findOrInsert (hl p0 p1 p2 p3 hf) p2 with
        ⟨e, t', hfind, hfoi, h'⟩ | ⟨e, t', hfind, hfoi, h'⟩
      · rw [hfoi, hfind]
        exact congrArg (Option.map _) (ih h' h0')
      · rw [hfoi, hfind]
        exact congrArg (Option.map _) (ih h' h0')
    · rfl

theorem specGo_short (l : Line) (post : List Line) (hl : (rangeFields l ranges 9).length ≠ 4)
    (pre : List Line) : ∀ seen, specGo seen (pre ++ l :: post) = none := by
  induction pre with
  | nil =>
    intro seen
    rw [List.nil_append, specGo]
    split
    · next hf => exact absurd (congrArg List.length hf) hl
    · rfl
  | cons a pre ih =>
    intro seen
    rw [List.cons_append, specGo]
    split
    · split <;> rw [ih] <;> rfl
    · rfl

end PV.Lemmas.Substitute
