import PV.Model.Utf8
import PV.Spec.Utf8
/-
`decode` against Tables 3-6 and 3-7.  The bit operations are carried out once (`decode_eq_decodeA`); after that a k-byte
sequence is a lead byte `tag + q` and trail bytes `0x80 + r`, the decoder's value is `((q * 64 + r₁) * 64 + r₂) * 64 + r₃`, and the
encoder's bytes are the base-64 digits of the code point.  The decoder's conditionals are taken apart by `by_cases` and
`rw [if_pos ..]` (`decode_sound`, `dec#_map_snd`, `decodeA_wf37A`): the conditions are wanted by name afterwards, and `split` on
them costs several times as much to check.  `encodeCP`'s three range tests are `split`: there all four branches are wanted.
-/
namespace PV.Lemmas.Utf8
open PV.Utf8 PV.Spec.Utf8

variable {len b0 b1 b2 b3 c n : Nat}

theorem lead_masks : ∀ b, b < 256 →
    (b &&& 0xE0 = 0xC0 ↔ 0xC0 ≤ b ∧ b < 0xE0) ∧ (b &&& 0xF0 = 0xE0 ↔ 0xE0 ≤ b ∧ b < 0xF0) ∧
      (b &&& 0xF8 = 0xF0 ↔ 0xF0 ≤ b ∧ b < 0xF8) := by decide +kernel

theorem shl_or (a k : Nat) {b : Nat} (h : b < 2 ^ k) : a <<< k ||| b = a * 2 ^ k + b := by
  rw [← Nat.shiftLeft_add_eq_or_of_lt h, Nat.shiftLeft_eq]

/-- turns `x <<< 12 ||| y <<< 6 ||| z` into `((x <<< 6 ||| y) <<< 6) ||| z`, so that `shl_or` only ever meets a 6-bit operand -/
theorem shl_or_shl (a b k j : Nat) : a <<< (k + j) ||| b <<< j = (a <<< k ||| b) <<< j := by
  rw [Nat.shiftLeft_or_distrib, ← Nat.shiftLeft_add]

theorem mod64_lt (b : Nat) : b % 64 < 64 := Nat.mod_lt b (by decide)

/-- what `decode` does with a 2-, 3-, 4-byte sequence once it has recognised the lead byte -/
def dec2 (b0 b1 : Nat) : Option (Nat × Nat) :=
  let c := b0 % 32 * 64 + b1 % 64
  if (0x80 ≤ b1 ∧ b1 < 0xC0) ∧ 0x80 ≤ c ∧ Scalar c then some (c, 2) else none

def dec3 (b0 b1 b2 : Nat) : Option (Nat × Nat) :=
  let c := (b0 % 16 * 64 + b1 % 64) * 64 + b2 % 64
  if (0x80 ≤ b1 ∧ b1 < 0xC0) ∧ (0x80 ≤ b2 ∧ b2 < 0xC0) ∧ 0x800 ≤ c ∧ Scalar c then some (c, 3) else none

def dec4 (b0 b1 b2 b3 : Nat) : Option (Nat × Nat) :=
  let c := ((b0 % 8 * 64 + b1 % 64) * 64 + b2 % 64) * 64 + b3 % 64
  if (0x80 ≤ b1 ∧ b1 < 0xC0) ∧ (0x80 ≤ b2 ∧ b2 < 0xC0) ∧ (0x80 ≤ b3 ∧ b3 < 0xC0) ∧ 0x10000 ≤ c ∧ Scalar c
  then some (c, 4) else none

/-- `decode` on the window length and the first four bytes, masks and shifts replaced by `%`, `*`, `+` -/
def decodeA (len b0 b1 b2 b3 : Nat) : Option (Nat × Nat) :=
  if len = 0 then none
  else if b0 < 0x80 then some (b0, 1)
  else if 2 ≤ len ∧ 0xC0 ≤ b0 ∧ b0 < 0xE0 then dec2 b0 b1
  else if 3 ≤ len ∧ 0xE0 ≤ b0 ∧ b0 < 0xF0 then dec3 b0 b1 b2
  else if 4 ≤ len ∧ 0xF0 ≤ b0 ∧ b0 < 0xF8 then dec4 b0 b1 b2 b3
  else none

theorem decode_eq_decodeA (bs : List UInt8) :
    decode bs = decodeA bs.length (byteAt bs 0) (byteAt bs 1) (byteAt bs 2) (byteAt bs 3) := by
  obtain ⟨m2, m3, m4⟩ := lead_masks _ (UInt8.toNat_lt (bs.getD 0 0))
  simp only [decode, decodeA, dec2, dec3, dec4, isTrailByte, isValidCodepoint, Scalar,
    Nat.and_two_pow_sub_one_eq_mod _ 6, Nat.and_two_pow_sub_one_eq_mod _ 5, Nat.and_two_pow_sub_one_eq_mod _ 4,
    Nat.and_two_pow_sub_one_eq_mod _ 3, shl_or_shl _ _ _ 6, shl_or_shl _ _ _ 12, shl_or _ 6 (mod64_lt _), Nat.reducePow,
    Bool.and_eq_true, Bool.or_eq_true, decide_eq_true_eq, beq_iff_eq, ge_iff_le, and_assoc]
  simp only [byteAt, m2, m3, m4]
  rfl  -- the two sides differ in their `Decidable` instances only

theorem decodeA_lead2 (hl : 2 ≤ len) (h0 : 0xC0 ≤ b0 ∧ b0 < 0xE0) : decodeA len b0 b1 b2 b3 = dec2 b0 b1 := by
  unfold decodeA; rw [if_neg (by omega), if_neg (by omega), if_pos ⟨hl, h0⟩]

theorem decodeA_lead3 (hl : 3 ≤ len) (h0 : 0xE0 ≤ b0 ∧ b0 < 0xF0) : decodeA len b0 b1 b2 b3 = dec3 b0 b1 b2 := by
  unfold decodeA; rw [if_neg (by omega), if_neg (by omega), if_neg (by omega), if_pos ⟨hl, h0⟩]

theorem decodeA_lead4 (hl : 4 ≤ len) (h0 : 0xF0 ≤ b0 ∧ b0 < 0xF8) : decodeA len b0 b1 b2 b3 = dec4 b0 b1 b2 b3 := by
  unfold decodeA; rw [if_neg (by omega), if_neg (by omega), if_neg (by omega), if_neg (by omega), if_pos ⟨hl, h0⟩]

theorem digit {q r c : Nat} (hr : r < 64) : q * 64 + r = c ↔ q = c / 64 ∧ r = c % 64 := by
  rw [eq_comm (a := q), eq_comm (a := r), Nat.div_mod_unique (by decide), Nat.add_comm, Nat.mul_comm]
  exact (and_iff_left hr).symm

theorem digit3 {q r1 r2 c : Nat} (h1 : r1 < 64) (h2 : r2 < 64) :
    (q * 64 + r1) * 64 + r2 = c ↔ q = c / 4096 ∧ r1 = c / 64 % 64 ∧ r2 = c % 64 := by
  rw [digit h2, digit h1, Nat.div_div_eq_div_mul, and_assoc]

theorem digit4 {q r1 r2 r3 c : Nat} (h1 : r1 < 64) (h2 : r2 < 64) (h3 : r3 < 64) :
    ((q * 64 + r1) * 64 + r2) * 64 + r3 = c ↔
      q = c / 262144 ∧ r1 = c / 4096 % 64 ∧ r2 = c / 64 % 64 ∧ r3 = c % 64 := by
  rw [digit h3, digit3 h1 h2, Nat.div_div_eq_div_mul, Nat.div_div_eq_div_mul, and_assoc, and_assoc]

theorem tag_add_mod {L m q : Nat} (hL : L % m = 0) (hq : q < m) : (L + q) % m = q := by
  rw [Nat.add_mod, hL, Nat.zero_add, Nat.mod_mod, Nat.mod_eq_of_lt hq]

theorem tag_add_mod' {L m b : Nat} (hL : L % m = 0) (h : L ≤ b ∧ b < L + m) : L + b % m = b := by
  have : b = L + (b - L) := by omega
  rw [this, tag_add_mod hL (by omega), ← this]

theorem tag_bounds (L : Nat) {m q : Nat} (hq : q < m) : L ≤ L + q ∧ L + q < L + m :=
  ⟨Nat.le_add_right .., Nat.add_lt_add_left hq _⟩

theorem toNat_tag (L : Nat) {m q : Nat} (hq : q < m) (hL : L + m ≤ 256 := by decide) : (UInt8.ofNat (L + q)).toNat = L + q :=
  UInt8.toNat_ofNat_of_lt' (Nat.lt_of_lt_of_le (Nat.add_lt_add_left hq _) hL)

theorem bytes_prefix (bs : List UInt8) {k : Nat} (h : k ≤ bs.length) :
    (List.range k).map (fun i => UInt8.ofNat (byteAt bs i)) <+: bs := by
  have : (List.range k).map (fun i => UInt8.ofNat (byteAt bs i)) = bs.take k := by
    apply List.ext_getElem
    · simp [Nat.min_eq_left h]
    · intro i h1 h2
      simp at h1
      simp [byteAt, List.getD_eq_getElem?_getD, List.getElem?_eq_getElem (Nat.lt_of_lt_of_le h1 h)]
  exact this ▸ List.take_prefix k bs

theorem decode_sound {bs : List UInt8} (h : decode bs = some (c, n)) :
    Scalar c ∧ (encodeCP c).length = n ∧ encodeCP c <+: bs := by
  rw [decode_eq_decodeA, decodeA] at h
  by_cases hl : bs.length = 0
  · rw [if_pos hl] at h; cases h
  rw [if_neg hl] at h
  by_cases h0 : byteAt bs 0 < 0x80
  · rw [if_pos h0] at h
    cases h
    rw [encodeCP, if_pos h0]
    exact ⟨.inl (Nat.lt_trans h0 (by decide)), rfl, bytes_prefix bs (k := 1) (Nat.pos_of_ne_zero hl)⟩
  rw [if_neg h0] at h
  by_cases g2 : 2 ≤ bs.length ∧ 0xC0 ≤ byteAt bs 0 ∧ byteAt bs 0 < 0xE0
  · simp only [if_pos g2, dec2, Option.ite_some_none_eq_some, Prod.mk.injEq] at h
    obtain ⟨⟨h1, hmin, hs⟩, hc, rfl⟩ := h
    obtain ⟨d0, d1⟩ := (digit (mod64_lt _)).mp hc
    rw [hc] at hmin hs
    have hmax : c < 0x800 := (Nat.div_lt_iff_lt_mul (by decide)).mp (d0 ▸ Nat.mod_lt _ (by decide))
    rw [encodeCP, if_neg (Nat.not_lt.mpr hmin), if_pos hmax, ← d0, ← d1, tag_add_mod' rfl g2.2, tag_add_mod' rfl h1]
    exact ⟨hs, rfl, bytes_prefix bs g2.1⟩
  rw [if_neg g2] at h
  by_cases g3 : 3 ≤ bs.length ∧ 0xE0 ≤ byteAt bs 0 ∧ byteAt bs 0 < 0xF0
  · simp only [if_pos g3, dec3, Option.ite_some_none_eq_some, Prod.mk.injEq] at h
    obtain ⟨⟨h1, h2, hmin, hs⟩, hc, rfl⟩ := h
    obtain ⟨d0, d1, d2⟩ := (digit3 (mod64_lt _) (mod64_lt _)).mp hc
    rw [hc] at hmin hs
    have hmax : c < 0x10000 := (Nat.div_lt_iff_lt_mul (by decide)).mp (d0 ▸ Nat.mod_lt _ (by decide))
    rw [encodeCP, if_neg (Nat.not_lt.mpr (Nat.le_trans (by decide) hmin)), if_neg (Nat.not_lt.mpr hmin), if_pos hmax,
      ← d0, ← d1, ← d2, tag_add_mod' rfl g3.2, tag_add_mod' rfl h1, tag_add_mod' rfl h2]
    exact ⟨hs, rfl, bytes_prefix bs g3.1⟩
  rw [if_neg g3] at h
  by_cases g4 : 4 ≤ bs.length ∧ 0xF0 ≤ byteAt bs 0 ∧ byteAt bs 0 < 0xF8
  · simp only [if_pos g4, dec4, Option.ite_some_none_eq_some, Prod.mk.injEq] at h
    obtain ⟨⟨h1, h2, h3, hmin, hs⟩, hc, rfl⟩ := h
    obtain ⟨d0, d1, d2, d3⟩ := (digit4 (mod64_lt _) (mod64_lt _) (mod64_lt _)).mp hc
    rw [hc] at hmin hs
    rw [encodeCP, if_neg (Nat.not_lt.mpr (Nat.le_trans (by decide) hmin)),
      if_neg (Nat.not_lt.mpr (Nat.le_trans (by decide) hmin)), if_neg (Nat.not_lt.mpr hmin),
      ← d0, ← d1, ← d2, ← d3, tag_add_mod' rfl g4.2, tag_add_mod' rfl h1, tag_add_mod' rfl h2, tag_add_mod' rfl h3]
    exact ⟨hs, rfl, bytes_prefix bs g4.1⟩
  · rw [if_neg g4] at h; cases h

theorem decode_encodeCP (hs : Scalar c) (rest : List UInt8) :
    decode (encodeCP c ++ rest) = some (c, (encodeCP c).length) := by
  have h1 := mod64_lt (c / 4096); have h2 := mod64_lt (c / 64); have h3 := mod64_lt c
  rw [decode_eq_decodeA]
  unfold encodeCP
  repeat' split
  all_goals simp only [byteAt, List.cons_append, List.getD_cons_zero, List.getD_cons_succ, List.length_cons]
  · rename_i h
    rw [UInt8.toNat_ofNat_of_lt' (Nat.lt_trans h (by decide)), decodeA, if_neg (Nat.succ_ne_zero _), if_pos h]; rfl
  · rename_i hmin hmax
    have hq := (Nat.div_lt_iff_lt_mul (k := 64) (y := 32) (by decide)).mpr hmax
    rw [toNat_tag 0xC0 hq, toNat_tag 0x80 h3,
      decodeA_lead2 (Nat.le_add_left 2 _) (tag_bounds 0xC0 hq), dec2, tag_add_mod rfl hq, tag_add_mod rfl h3,
      (digit h3).mpr ⟨rfl, rfl⟩, if_pos ⟨tag_bounds 0x80 h3, Nat.not_lt.mp hmin, hs⟩]; rfl
  · rename_i hmin hmax
    have hq := (Nat.div_lt_iff_lt_mul (k := 4096) (y := 16) (by decide)).mpr hmax
    rw [toNat_tag 0xE0 hq, toNat_tag 0x80 h2, toNat_tag 0x80 h3,
      decodeA_lead3 (Nat.le_add_left 3 _) (tag_bounds 0xE0 hq), dec3, tag_add_mod rfl hq, tag_add_mod rfl h2,
      tag_add_mod rfl h3, (digit3 h2 h3).mpr ⟨rfl, rfl, rfl⟩,
      if_pos ⟨tag_bounds 0x80 h2, tag_bounds 0x80 h3, Nat.not_lt.mp hmin, hs⟩]; rfl
  · rename_i hmin
    have hq : c / 262144 < 8 := (Nat.div_lt_iff_lt_mul (by decide)).mpr (by unfold Scalar at hs; omega)
    rw [toNat_tag 0xF0 hq, toNat_tag 0x80 h1, toNat_tag 0x80 h2,
      toNat_tag 0x80 h3, decodeA_lead4 (Nat.le_add_left 4 _) (tag_bounds 0xF0 hq), dec4, tag_add_mod rfl hq,
      tag_add_mod rfl h1, tag_add_mod rfl h2, tag_add_mod rfl h3, (digit4 h1 h2 h3).mpr ⟨rfl, rfl, rfl, rfl⟩,
      if_pos ⟨tag_bounds 0x80 h1, tag_bounds 0x80 h2, tag_bounds 0x80 h3, Nat.not_lt.mp hmin, hs⟩]; rfl

/-- Table 3-7's rows for 3- and 4-byte sequences: what they ask of the bytes after the lead byte -/
def wf3 (b0 b1 b2 : Nat) : Option Nat :=
  if ((if b0 = 0xE0 then 0xA0 else 0x80) ≤ b1 ∧ b1 ≤ if b0 = 0xED then 0x9F else 0xBF) ∧ 0x80 ≤ b2 ∧ b2 ≤ 0xBF
  then some 3 else none

def wf4 (b0 b1 b2 b3 : Nat) : Option Nat :=
  if (((if b0 = 0xF0 then 0x90 else 0x80) ≤ b1 ∧ b1 ≤ if b0 = 0xF4 then 0x8F else 0xBF) ∧ 0x80 ≤ b2 ∧ b2 ≤ 0xBF) ∧
    0x80 ≤ b3 ∧ b3 ≤ 0xBF
  then some 4 else none

/-- `wf37` on the window length and the first four bytes, with the length tests where `decodeA` has them -/
def wf37A (len b0 b1 b2 b3 : Nat) : Option Nat :=
  if len = 0 then none
  else if b0 ≤ 0x7F then some 1
  else if 2 ≤ len ∧ 0xC2 ≤ b0 ∧ b0 ≤ 0xDF then if 0x80 ≤ b1 ∧ b1 ≤ 0xBF then some 2 else none
  else if 3 ≤ len ∧ 0xE0 ≤ b0 ∧ b0 ≤ 0xEF then wf3 b0 b1 b2
  else if 4 ≤ len ∧ 0xF0 ≤ b0 ∧ b0 ≤ 0xF4 then wf4 b0 b1 b2 b3
  else none

/-! The decoder's range checks (no overlong form, no surrogate, nothing above U+10FFFF) are Table 3-7's bounds on the second
byte, lead byte by lead byte; C0, C1 and F5..F7 pass the mask test and fail the range check for every second byte. -/

theorem dec2_map_snd (h0 : 0xC0 ≤ b0 ∧ b0 < 0xE0) :
    (dec2 b0 b1).map (·.2) = if 0xC2 ≤ b0 ∧ 0x80 ≤ b1 ∧ b1 ≤ 0xBF then some 2 else none := by
  unfold dec2 Scalar
  rw [Option.map_if]
  exact ite_congr (propext (by omega)) (fun _ => rfl) (fun _ => rfl)

theorem dec3_map_snd (h0 : 0xE0 ≤ b0 ∧ b0 < 0xF0) : (dec3 b0 b1 b2).map (·.2) = wf3 b0 b1 b2 := by
  unfold dec3 Scalar wf3
  rw [Option.map_if]
  refine ite_congr (propext ?_) (fun _ => rfl) (fun _ => rfl)
  by_cases hE0 : b0 = 0xE0
  · subst hE0; rw [if_pos rfl, if_neg (by decide)]; omega    -- E0: at least U+0800 iff the second byte is at least A0
  by_cases hED : b0 = 0xED
  · subst hED; rw [if_neg hE0, if_pos rfl]; omega             -- ED: below U+D800 iff the second byte is at most 9F
  · rw [if_neg hE0, if_neg hED]; omega

theorem dec4_map_snd (h0 : 0xF0 ≤ b0 ∧ b0 < 0xF8) :
    (dec4 b0 b1 b2 b3).map (·.2) = if b0 ≤ 0xF4 then wf4 b0 b1 b2 b3 else none := by
  unfold dec4 Scalar wf4
  by_cases hM : b0 ≤ 0xF4
  · rw [Option.map_if, if_pos hM]
    refine ite_congr (propext ?_) (fun _ => rfl) (fun _ => rfl)
    by_cases hF0 : b0 = 0xF0
    · subst hF0; rw [if_pos rfl, if_neg (by decide)]; omega  -- F0: at least U+10000 iff the second byte is at least 90
    by_cases hF4 : b0 = 0xF4
    · subst hF4; rw [if_neg hF0, if_pos rfl]; omega           -- F4: at most U+10FFFF iff the second byte is at most 8F
    · rw [if_neg hF0, if_neg hF4]; omega
  · rw [if_neg hM, if_neg (by omega)]; rfl

theorem decodeA_wf37A (len b0 b1 b2 b3 : Nat) : (decodeA len b0 b1 b2 b3).map (·.2) = wf37A len b0 b1 b2 b3 := by
  unfold decodeA wf37A
  symm  -- `rw [if_neg fun h => …]` takes the first conditional it meets, which has to be `wf37A`'s
  by_cases hl : len = 0
  · rw [if_pos hl, if_pos hl]; rfl
  by_cases h1 : b0 < 0x80
  · rw [if_neg hl, if_pos (Nat.le_of_lt_succ h1), if_neg hl, if_pos h1]; rfl
  rw [if_neg hl, if_neg (fun h => h1 (Nat.lt_succ_of_le h)), if_neg hl, if_neg h1]
  by_cases g2 : 2 ≤ len ∧ 0xC0 ≤ b0 ∧ b0 < 0xE0
  · rw [if_pos g2, dec2_map_snd g2.2]
    by_cases hM : 0xC2 ≤ b0
    · rw [if_pos ⟨g2.1, hM, by omega⟩]; simp only [hM, true_and]
    · rw [if_neg (fun h => hM h.2.1), if_neg (by omega), if_neg (by omega), if_neg (fun h => hM h.1)]
  rw [if_neg (fun h => g2 ⟨h.1, by omega, by omega⟩), if_neg g2]
  by_cases g3 : 3 ≤ len ∧ 0xE0 ≤ b0 ∧ b0 < 0xF0
  · rw [if_pos ⟨g3.1, g3.2.1, by omega⟩, if_pos g3, dec3_map_snd g3.2]
  rw [if_neg (fun h => g3 ⟨h.1, h.2.1, by omega⟩), if_neg g3]
  by_cases g4 : 4 ≤ len ∧ 0xF0 ≤ b0 ∧ b0 < 0xF8
  · rw [if_pos g4, dec4_map_snd g4.2]
    by_cases hM : b0 ≤ 0xF4
    · rw [if_pos ⟨g4.1, g4.2.1, hM⟩, if_pos hM]
    · rw [if_neg (fun h => hM h.2.2), if_neg hM]
  · rw [if_neg (fun h => g4 ⟨h.1, h.2.1, by omega⟩), if_neg g4]; rfl

theorem wf37_eq_wf37A (bs : List UInt8) :
    wf37 bs = wf37A bs.length (byteAt bs 0) (byteAt bs 1) (byteAt bs 2) (byteAt bs 3) := by
  rcases bs with _ | ⟨a, _ | ⟨b, _ | ⟨c, _ | ⟨d, r⟩⟩⟩⟩
  · rfl
  all_goals
    simp only [wf37, wf37A, wf3, wf4, byteAt, List.getD_cons_zero, List.getD_cons_succ, List.getD_nil, List.length_cons,
      List.length_nil, UInt8.toNat_zero, Bool.and_eq_true, decide_eq_true_eq, Nat.reduceAdd, Nat.reduceLeDiff,
      Nat.succ_ne_zero, Nat.le_add_left, true_and, false_and, if_false, ite_self]

theorem encodeCP_length_pos (c : Nat) : 1 ≤ (encodeCP c).length := by
  unfold encodeCP; repeat' split
  all_goals exact Nat.le_add_left ..

theorem encodeCP_append_ne_nil (c : Nat) (t : List UInt8) : encodeCP c ++ t ≠ [] :=
  fun h => List.ne_nil_of_length_pos (encodeCP_length_pos c) (List.append_eq_nil_iff.mp h).1

theorem decodeAllFuel_iff (fuel : Nat) : ∀ (bs : List UInt8) (cs : List Nat), bs.length ≤ fuel →
    (decodeAllFuel fuel bs = some cs ↔ ((∀ c ∈ cs, Scalar c) ∧ bs = cs.flatMap encodeCP)) := by
  have nil (fuel cs) : decodeAllFuel fuel [] = some cs ↔ (∀ c ∈ cs, Scalar c) ∧ [] = cs.flatMap encodeCP := by
    rw [show decodeAllFuel fuel [] = some [] by cases fuel <;> rfl]
    cases cs with
    | nil => simp
    | cons c cs =>
      refine ⟨fun h => (nomatch h), fun h => ?_⟩
      exact absurd h.2.symm (encodeCP_append_ne_nil c _)
  induction fuel with
  | zero => exact fun bs cs h => List.length_eq_zero_iff.mp (Nat.le_zero.mp h) ▸ nil 0 cs
  | succ fuel ih =>
    intro bs cs h
    cases bs with
    | nil => exact nil _ cs
    | cons b r =>
      rw [decodeAllFuel]
      constructor
      · intro hd
        split at hd
        · cases hd
        rename_i c n hdec
        obtain ⟨hs, rfl, rest, hr⟩ := decode_sound hdec
        rw [← hr, List.drop_left] at hd
        split at hd
        · cases hd
        rename_i cps hrest
        cases hd
        have := encodeCP_length_pos c
        obtain ⟨hcs, rfl⟩ := (ih rest cps (by rw [← hr, List.length_append] at h; omega)).mp hrest
        exact ⟨List.forall_mem_cons.mpr ⟨hs, hcs⟩, hr.symm⟩
      · rintro ⟨hs, hbs⟩
        cases cs with
        | nil => cases hbs
        | cons c cps =>
          obtain ⟨hc, hcs⟩ := List.forall_mem_cons.mp hs
          have := encodeCP_length_pos c
          rw [hbs, List.flatMap_cons, List.length_append] at h
          rw [hbs, List.flatMap_cons, decode_encodeCP hc]
          simp only [List.drop_left, (ih _ cps (by omega)).mpr ⟨hcs, rfl⟩]

theorem decodeAll_iff (bs : List UInt8) (cs : List Nat) :
    decodeAll bs = some cs ↔ ((∀ c ∈ cs, Scalar c) ∧ bs = cs.flatMap encodeCP) :=
  decodeAllFuel_iff bs.length bs cs (Nat.le_refl _)

theorem isUTF8_iff (bs : List UInt8) : isUTF8 bs = true ↔ WellFormed bs :=
  Option.isSome_iff_exists.trans (exists_congr (decodeAll_iff bs))

theorem WellFormed.nil : WellFormed [] := ⟨[], nofun, rfl⟩

theorem WellFormed.append {a b : List UInt8} : WellFormed a → WellFormed b → WellFormed (a ++ b) := by
  rintro ⟨ca, ha, rfl⟩ ⟨cb, hb, rfl⟩
  exact ⟨ca ++ cb, List.forall_mem_append.mpr ⟨ha, hb⟩, List.flatMap_append.symm⟩

theorem wellFormed_encodeCP {c : Nat} (hc : Scalar c) : WellFormed (encodeCP c) :=
  ⟨[c], List.forall_mem_singleton.mpr hc, (List.flatMap_singleton ..).symm⟩

theorem WellFormed.decode_append {x : List UInt8} (hx : WellFormed x) (hne : x ≠ []) (t : List UInt8) :
    ∃ c n, decode (x ++ t) = some (c, n) ∧ n ≤ x.length := by
  obtain ⟨cs, hs, rfl⟩ := hx
  cases cs with
  | nil => exact absurd rfl hne
  | cons c cs =>
    rw [List.flatMap_cons, List.append_assoc, List.length_append]
    exact ⟨c, _, decode_encodeCP (hs c List.mem_cons_self) _, Nat.le_add_right _ _⟩

/-- UTF-8 is a prefix code. -/
theorem WellFormed.cancel_left {x y : List UInt8} (hx : WellFormed x) (hxy : WellFormed (x ++ y)) : WellFormed y := by
  obtain ⟨cs, hs, rfl⟩ := hx
  induction cs with
  | nil => exact hxy
  | cons c cs ih =>
    obtain ⟨hc, hs⟩ := List.forall_mem_cons.mp hs
    obtain ⟨ds, hd, h⟩ := hxy
    rw [List.flatMap_cons, List.append_assoc] at h
    have hdec := decode_encodeCP hc (cs.flatMap encodeCP ++ y)
    cases ds with
    | nil => exact absurd h (encodeCP_append_ne_nil c _)
    | cons d ds =>
      obtain ⟨hd0, hds⟩ := List.forall_mem_cons.mp hd
      -- both sides decode to their first code point, so `d = c`
      rw [h, List.flatMap_cons, decode_encodeCP hd0] at hdec
      cases hdec
      exact ih hs ⟨ds, hds, List.append_cancel_left h⟩

end PV.Lemmas.Utf8
