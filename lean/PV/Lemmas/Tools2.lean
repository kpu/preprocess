import PV.Model.Tools2
namespace PV.Lemmas.Tools2
open PV.Tools PV.Tools2

theorem tokensGo_cons_delim (isDelim : UInt8 → Bool) (b : UInt8) (r cur : List UInt8) (h : isDelim b = true) :
    tokensGo isDelim (b :: r) cur = tokensGo isDelim [] cur ++ tokensGo isDelim r [] := by
  simp only [tokensGo, h, if_true]
  split <;> rfl

theorem tokensGo_nil_spec (isDelim : UInt8 → Bool) (cur : List UInt8) (hc : ∀ b ∈ cur, isDelim b = false) :
    (∀ t ∈ tokensGo isDelim [] cur, t ≠ [] ∧ ∀ b ∈ t, isDelim b = false) ∧
    (tokensGo isDelim [] cur).flatten = cur.reverse := by
  rw [tokensGo]
  split
  · subst cur; exact ⟨nofun, rfl⟩
  · rw [List.forall_mem_singleton, List.flatten_singleton]
    exact ⟨⟨mt List.reverse_eq_nil_iff.1 ‹_›, fun b hb => hc b (List.mem_reverse.1 hb)⟩, rfl⟩

theorem tokensGo_spec (isDelim : UInt8 → Bool) (bs : List UInt8) : ∀ cur, (∀ b ∈ cur, isDelim b = false) →
    (∀ t ∈ tokensGo isDelim bs cur, t ≠ [] ∧ ∀ b ∈ t, isDelim b = false) ∧
    (tokensGo isDelim bs cur).flatten = cur.reverse ++ bs.filter (fun b => !isDelim b) := by
  induction bs with
  | nil =>
    intro cur hc
    rw [List.filter_nil, List.append_nil]
    exact tokensGo_nil_spec isDelim cur hc
  | cons b r ih =>
    intro cur hc
    rw [List.filter_cons]
    cases hb : isDelim b with
    | true =>
      obtain ⟨h1, h2⟩ := ih [] nofun
      obtain ⟨e1, e2⟩ := tokensGo_nil_spec isDelim cur hc
      rw [tokensGo_cons_delim isDelim b r cur hb, List.flatten_append, h2, e2]
      exact ⟨fun t ht => (List.mem_append.1 ht).elim (e1 t) (h1 t), rfl⟩
    | false =>
      obtain ⟨h1, h2⟩ := ih (b :: cur) fun x hx => (List.mem_cons.1 hx).elim (· ▸ hb) (hc x)
      rw [tokensGo, if_neg (by rw [hb]; exact Bool.false_ne_true)]
      exact ⟨h1, by rw [h2, List.reverse_cons, List.append_assoc]; rfl⟩

theorem tokens_spec (isDelim : UInt8 → Bool) (bs : List UInt8) :
    (∀ t ∈ tokens isDelim bs, t ≠ [] ∧ ∀ b ∈ t, isDelim b = false) ∧
    (tokens isDelim bs).flatten = bs.filter (fun b => !isDelim b) :=
  tokensGo_spec isDelim bs [] nofun

theorem numberDoc_lines (i : Nat) (doc : List UInt8) :
    ∀ o ∈ numberDoc i doc, ∃ body, o = body ++ [9] ++ decimal i ∧ body ≠ [] ∧
      (9 : UInt8) ∉ body ∧ (10 : UInt8) ∉ body := by
  intro o ho
  obtain ⟨body, hb, rfl⟩ := List.mem_map.1 ho
  obtain ⟨hs1, hs2⟩ := tokens_spec (· == 10) (doc.map fun b => if b == 9 then 32 else b)
  refine ⟨body, rfl, (hs1 body hb).1, fun h9 => ?_, fun h10 => nomatch (hs1 body hb).2 10 h10⟩
  -- a byte of a token is a byte of the document after tabs became spaces
  have hmem := List.mem_flatten.2 ⟨body, hb, h9⟩
  rw [hs2] at hmem
  obtain ⟨x, _, hx⟩ := List.mem_map.1 (List.mem_filter.1 hmem).1
  split at hx
  · exact nomatch hx
  · exact ‹¬(x == 9) = true› (beq_iff_eq.2 hx)

theorem base64NumberFrom_lines : ∀ (ls : List Line) (i : Nat) (out : List Line),
    base64NumberFrom i ls = some out →
    ∀ o ∈ out, ∃ j body, i ≤ j ∧ j < i + ls.length ∧ o = body ++ [9] ++ decimal j ∧ body ≠ [] ∧
      (9 : UInt8) ∉ body ∧ (10 : UInt8) ∉ body := by
  intro ls
  induction ls with
  | nil =>
    rintro i out ⟨⟩ o ho
    exact nomatch ho
  | cons l ls ih =>
    intro i out h o ho
    rw [base64NumberFrom] at h
    split at h
    · next doc _ =>
      obtain ⟨rest, hr, rfl⟩ := Option.map_eq_some_iff.1 h
      rcases List.mem_append.1 ho with ho | ho
      · obtain ⟨body, hb⟩ := numberDoc_lines i doc o ho
        exact ⟨i, body, Nat.le_refl _, Nat.lt_add_of_pos_right (Nat.succ_pos _), hb⟩
      · obtain ⟨j, body, hj1, hj2, hb⟩ := ih (i + 1) rest hr o ho
        exact ⟨j, body, Nat.le_of_succ_le hj1, by rw [List.length_cons]; omega, hb⟩
    · exact nomatch h

end PV.Lemmas.Tools2
