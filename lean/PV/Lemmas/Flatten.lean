import PV.Model.Flatten
import PV.Spec.Flatten
import PV.Spec.Utf8
/-!
process_unicode (PV.Model.Flatten): the ping-pong buffers print the transformed line (`mainLoop_eq`), and
`Flatten::Apply` on UTF-16 units is the code point specification (`applyLoop_eq`).  `At inp i rest` ties a unit index to
the code points still to come; the rule tables being BMP text, matching on units is matching on code points.
-/
namespace PV.Lemmas.Flatten
open PV.Flatten
open PV.Spec.Utf8 (Scalar)

variable (rules : List Start) (isSpace : Nat → Bool)

theorem stepLine_fst (fl : Flags) (lower nfkc : List Nat → List Nat) (b : Buffers) (line : List Nat) :
    (stepLine fl lower nfkc rules isSpace b line).1 =
      PV.Spec.Flatten.transform fl.lower fl.flatten fl.normalize lower (apply rules isSpace) nfkc line := by
  obtain ⟨l, f, n⟩ := fl
  obtain ⟨s0, s1, cur⟩ := b
  -- the three flags and which buffer is current: in each of the 16 cases both sides compute to the same term
  cases l <;> cases f <;> cases n <;> cases cur <;>
    simp [stepLine, Buffers.get, Buffers.set, PV.Spec.Flatten.transform]

theorem mainLoop_eq (fl : Flags) (lower nfkc : List Nat → List Nat) : ∀ (lines : List (List Nat)) (b : Buffers),
    mainLoop fl lower nfkc rules isSpace b lines =
      lines.map (PV.Spec.Flatten.transform fl.lower fl.flatten fl.normalize lower (apply rules isSpace) nfkc)
  | [], _ => rfl
  | l :: ls, b => by
    show (stepLine fl lower nfkc rules isSpace b l).1 :: mainLoop fl lower nfkc rules isSpace _ ls = _
    rw [mainLoop_eq fl lower nfkc ls, stepLine_fst]; rfl

theorem transform_none (f g h : List Nat → List Nat) (line : List Nat) :
    PV.Spec.Flatten.transform false false false f g h line = line := rfl

/-- BMP, non-surrogate: its own UTF-16 text.  The `Prop` form of the local `ok` of `bmpOnly`; `bmpOnly_mem` goes from that to this -/
def Ok (u : Nat) : Prop := u < 0xD800 ∨ (0xE000 ≤ u ∧ u < 0x10000)

theorem Ok.not_surrogate {u : Nat} (h : Ok u) : isLead u = false ∧ isTrail u = false := by
  unfold Ok at h
  unfold isLead isTrail
  simp only [Bool.and_eq_false_iff, decide_eq_false_iff_not]
  omega

theorem flatMap_ok : ∀ (l : List Nat), (∀ u ∈ l, Ok u) → l.flatMap encode16 = l
  | [], _ => rfl
  | a :: l, h => by
    obtain ⟨ha, h⟩ := List.forall_mem_cons.mp h
    unfold Ok at ha
    rw [List.flatMap_cons, flatMap_ok l h, encode16, if_neg (by omega)]; rfl

theorem encode16_length (c : Nat) : (encode16 c).length = u16Length c := by
  unfold encode16 u16Length; split <;> rfl

theorem encode16_length_pos (c : Nat) : 0 < (encode16 c).length := by
  unfold encode16; split <;> exact Nat.succ_pos _

def At (inp : List Nat) (i : Nat) (rest : List Nat) : Prop :=
  i ≤ inp.length ∧ inp.drop i = rest.flatMap encode16

theorem At.length {inp rest : List Nat} {i : Nat} (h : At inp i rest) :
    inp.length = i + (rest.flatMap encode16).length :=
  (Nat.sub_eq_iff_eq_add' h.1).mp (List.length_drop ▸ congrArg List.length h.2)

theorem At.advance {inp pre rest : List Nat} {i : Nat} (h : At inp i (pre ++ rest)) :
    At inp (i + (pre.flatMap encode16).length) rest := by
  have hl := h.length
  rw [List.flatMap_append, List.length_append] at hl
  refine ⟨by omega, ?_⟩
  rw [← List.drop_drop, h.2, List.flatMap_append, List.drop_left]

theorem encode16_cases {c : Nat} (hc : Scalar c) :
    Ok c ∧ encode16 c = [c] ∨ ∃ hi lo, encode16 c = [hi, lo] ∧ ¬ Ok c ∧
      isLead hi = true ∧ isTrail lo = true ∧ combine hi lo = c := by
  unfold Scalar at hc
  unfold encode16 Ok
  split
  · refine .inr ⟨_, _, rfl, ?_⟩
    unfold isLead isTrail combine
    simp only [Bool.and_eq_true, decide_eq_true_eq, Nat.add_sub_cancel_left]
    omega
  · exact .inl ⟨by omega, rfl⟩

theorem At.char {inp rest : List Nat} {i c : Nat} (h : At inp i (c :: rest)) (hc : Scalar c) :
    char32At inp i = c := by
  have hl := h.length
  have hg : ∀ k, inp.getD (i + k) 0 = (encode16 c ++ rest.flatMap encode16).getD k 0 := fun k => by
    rw [← List.flatMap_cons, ← h.2, List.getD_eq_getElem?_getD, List.getD_eq_getElem?_getD, List.getElem?_drop]
  have h0 : inp.getD i 0 = _ := hg 0
  have h1 := hg 1
  rw [List.flatMap_cons, List.length_append] at hl
  unfold char32At
  rcases encode16_cases hc with ⟨hok, he⟩ | ⟨hi, lo, he, _, hlead, htrail, hcomb⟩
  · rw [he, List.cons_append, List.getD_cons_zero] at h0
    simp only [h0, hok.not_surrogate, Bool.false_and, Bool.false_eq_true, if_false]
  · rw [he] at h0 h1 hl
    simp only [List.cons_append, List.getD_cons_zero, List.getD_cons_succ] at h0 h1
    simp only [h0, h1, hlead, htrail, Bool.true_and, Bool.and_true, decide_eq_true_eq]
    rw [if_pos (by rw [hl]; exact Nat.add_lt_add_left (Nat.lt_add_right _ (Nat.lt_succ_self 1)) i), hcomb]

theorem bmpOnly_mem {rules : List Start} (hb : PV.Spec.Flatten.bmpOnly rules = true)
    {st : Start} (hst : st ∈ rules) :
    Ok st.c ∧ ∀ r ∈ st.longer, ∀ u ∈ r.fromSuffix, Ok u := by
  unfold PV.Spec.Flatten.bmpOnly at hb
  simp only [List.all_eq_true, Bool.and_eq_true, Bool.or_eq_true, decide_eq_true_eq] at hb
  exact ⟨(hb st hst).1, fun r hr => ((hb st hst).2 r hr).1⟩

/-- a supplementary code point's surrogates are not BMP text, so a BMP text is a prefix of the units
    exactly when it is a prefix of the code points -/
theorem take_flatMap_eq_iff : ∀ (suf rest : List Nat), (∀ u ∈ suf, Ok u) → (∀ c ∈ rest, Scalar c) →
    ((rest.flatMap encode16).take suf.length = suf ↔ rest.take suf.length = suf)
  | [], _, _, _ => by simp
  | s :: t, [], _, _ => by simp
  | s :: t, c :: rest, hsuf, hrest => by
    obtain ⟨hs, hsuf⟩ := List.forall_mem_cons.mp hsuf
    obtain ⟨hc, hrest⟩ := List.forall_mem_cons.mp hrest
    rw [List.flatMap_cons]
    rcases encode16_cases hc with ⟨_, he⟩ | ⟨hi, lo, he, hnok, hlead, _⟩
    · simp only [he, List.length_cons, List.cons_append, List.nil_append, List.take_succ_cons, List.cons.injEq]
      exact and_congr_right fun _ => take_flatMap_eq_iff t rest hsuf hrest
    · simp only [he, List.length_cons, List.cons_append, List.take_succ_cons, List.cons.injEq]
      exact ⟨fun h => absurd (h.1 ▸ hlead) (Bool.eq_false_iff.mp hs.not_surrogate.1),
        fun h => absurd (h.1 ▸ hs) hnok⟩

theorem ruleMatches_eq {inp rest : List Nat} {i : Nat} (h : At inp (i + 1) rest)
    (r : LongReplace) (hr : ∀ u ∈ r.fromSuffix, Ok u) (hs : ∀ c ∈ rest, Scalar c) :
    ruleMatches isSpace inp i r = PV.Spec.Flatten.matchesCp isSpace rest r := by
  unfold ruleMatches PV.Spec.Flatten.matchesCp
  rw [h.2]
  by_cases hm : rest.take r.fromSuffix.length = r.fromSuffix
  · have hend : At inp (i + 1 + r.fromSuffix.length) (rest.drop r.fromSuffix.length) := by
      have := At.advance (pre := r.fromSuffix) (by rwa [← hm, List.take_append_drop])
      rwa [flatMap_ok _ hr] at this
    have hl := hend.length
    rw [hm, (take_flatMap_eq_iff _ _ hr hs).mpr hm, beq_self_eq_true, Bool.true_and, Bool.true_and]
    cases hd : rest.drop r.fromSuffix.length with
    | nil =>
      have hlen := congrArg List.length hm
      rw [List.length_take] at hlen
      rw [hd, List.flatMap_nil, List.length_nil, Nat.add_zero] at hl
      rw [beq_iff_eq.mpr hl,
        beq_iff_eq.mpr (Nat.le_antisymm (List.drop_eq_nil_iff.mp hd) (hlen ▸ Nat.min_le_right ..))]
      simp only [Bool.or_true, Bool.true_or]
    | cons d ds =>
      rw [hd] at hend hl
      rw [hend.char (hs d (List.mem_of_mem_drop (hd ▸ List.mem_cons_self ..)))]
      have := encode16_length_pos d
      rw [List.flatMap_cons, List.length_append] at hl
      rw [beq_eq_false_iff_ne.mpr (by omega : inp.length ≠ _), beq_eq_false_iff_ne.mpr fun e : rest.length = _ =>
        List.cons_ne_nil d ds (hd.symm.trans (List.drop_eq_nil_iff.mpr (Nat.le_of_eq e)))]
      rfl
  · rw [beq_eq_false_iff_ne.mpr hm, beq_eq_false_iff_ne.mpr (mt (take_flatMap_eq_iff _ _ hr hs).mp hm),
      Bool.false_and, Bool.false_and]

theorem find?_congr {α : Type} {p q : α → Bool} : ∀ {l : List α}, (∀ a ∈ l, p a = q a) →
    l.find? p = l.find? q
  | [], _ => rfl
  | a :: l, h => by
    obtain ⟨ha, h⟩ := List.forall_mem_cons.mp h
    rw [List.find?_cons, List.find?_cons, ha, find?_congr h]

/-- `fuel` is the model's and bounds the units still to be read, `fuel'` the specification's and bounds the code points -/
theorem applyLoop_eq (hb : PV.Spec.Flatten.bmpOnly rules = true) (inp : List Nat) (fuel : Nat) :
    ∀ (fuel' i : Nat) (rest out : List Nat), (∀ c ∈ rest, Scalar c) → At inp i rest →
      (rest.flatMap encode16).length < fuel → rest.length ≤ fuel' →
      applyLoop rules isSpace inp fuel i out = out ++ PV.Spec.Flatten.flattenSpec rules isSpace fuel' rest := by
  induction fuel with
  | zero => exact fun _ _ _ _ _ _ hf _ => absurd hf (Nat.not_lt_zero _)
  | succ fuel ih =>
    intro fuel' i rest out hs h hf hl
    cases rest with
    | nil =>
      rw [applyLoop, if_pos (show i ≥ inp.length from Nat.le_of_eq h.length)]
      cases fuel' <;> simp [PV.Spec.Flatten.flattenSpec]
    | cons c rest =>
      obtain _ | fuel' := fuel'
      · exact absurd hl (Nat.not_succ_le_zero _)
      obtain ⟨hc, hs'⟩ := List.forall_mem_cons.mp hs
      have hlen := h.length
      have hpos := encode16_length_pos c
      rw [List.flatMap_cons, List.length_append] at hlen hf
      -- the loop goes on behind `c` and any further code points `pre`
      have step : ∀ (pre rest' : List Nat) (n : Nat) (o : List Nat), rest = pre ++ rest' →
          ((c :: pre).flatMap encode16).length = n →
          applyLoop rules isSpace inp fuel (i + n) (out ++ o) =
            out ++ (o ++ PV.Spec.Flatten.flattenSpec rules isSpace fuel' rest') := by
        intro pre rest' n o hsplit hn
        subst hsplit hn
        rw [List.length_cons, List.length_append] at hl
        rw [List.flatMap_append, List.length_append] at hf
        rw [ih fuel' _ rest' (out ++ o) (fun d hd => hs' d (List.mem_append_right _ hd))
          (At.advance (pre := c :: pre) h) (by omega) (by omega), List.append_assoc]
      rw [applyLoop, if_neg (by omega), PV.Spec.Flatten.flattenSpec]
      simp only [h.char hc]
      cases hfind : rules.find? (fun x => x.c == c) with
      -- the model appends `PV.Flatten.encode16 c`, the specification its own `encode16 c`: the same body, identified by unfolding
      | none => exact step [] rest _ _ rfl (by rw [List.flatMap_singleton, encode16_length])
      | some st =>
        obtain ⟨hok, hlong⟩ := bmpOnly_mem hb (List.mem_of_find?_eq_some hfind)
        rw [show st.c = c by simpa using List.find?_some hfind] at hok
        have henc : ([c].flatMap encode16).length = 1 := by rw [flatMap_ok _ (by simpa using hok)]; rfl
        dsimp only    -- reduces the `match some st with` left by `cases hfind`: under it `st` is bound and `rw` does not reach `find?`
        rw [find?_congr fun r hr => ruleMatches_eq isSpace (henc ▸ At.advance (pre := [c]) h) r (hlong r hr) hs']
        cases hfr : st.longer.find? (PV.Spec.Flatten.matchesCp isSpace rest) with
        | none => exact step [] rest 1 _ rfl henc
        | some r =>
          have hm := List.find?_some hfr
          unfold PV.Spec.Flatten.matchesCp at hm
          rw [Bool.and_eq_true, beq_iff_eq] at hm
          refine step r.fromSuffix (rest.drop r.fromSuffix.length) (r.fromSuffix.length + 1) _ ?_ ?_
          · exact (hm.1 ▸ List.take_append_drop r.fromSuffix.length rest).symm
          · rw [flatMap_ok _ (List.forall_mem_cons.mpr ⟨hok, hlong r (List.mem_of_find?_eq_some hfr)⟩)]; rfl

theorem flattenSpec_no_rule (fuel : Nat) (cps : List Nat) (hl : cps.length ≤ fuel)
    (hn : ∀ c ∈ cps, ∀ st ∈ rules, st.c ≠ c) :
    PV.Spec.Flatten.flattenSpec rules isSpace fuel cps = cps.flatMap encode16 := by
  induction cps generalizing fuel with
  | nil => cases fuel <;> rfl
  | cons c rest ih =>
    obtain _ | fuel := fuel
    · cases hl
    obtain ⟨hc, hn⟩ := List.forall_mem_cons.mp hn
    rw [PV.Spec.Flatten.flattenSpec, List.find?_eq_none.mpr fun st hst => by simpa using hc st hst]
    exact congrArg _ (ih fuel (Nat.le_of_succ_le_succ hl) hn)   -- `flattenSpec` has `PV.Spec.Flatten.encode16` where the goal has the model's

end PV.Lemmas.Flatten
