import PV.Lemmas.Reader
/-
C02 — the line reader yields exactly the input's records for any source and chunking.
-/
namespace PV.Props.C02
open PV.Reader PV.Spec.Records

/-- Read mode (pipe, compressed stream, istream): for every byte string, every schedule of
    read() return sizes, every initial buffer size ≥ 1, delimiter and strip_cr setting, calling
    ReadLine until end of input returns exactly the records of the input (no divergence; nothing
    lost, duplicated or reordered at any refill, memmove or doubling). -/
theorem read_mode_records (delim : UInt8) (stripCr : Bool) (cap0 : Nat) (hcap : 0 < cap0)
    (src : List UInt8) (sched : List Nat) :
    recordsRead delim stripCr cap0 src sched = some (splitRecords delim stripCr src) := by
  obtain ⟨s', e, _⟩ := PV.Lemmas.Reader.readAll_read delim stripCr cap0 hcap src sched
  simp [recordsRead, e]

/-- mmap mode (regular file at any start offset): same, for every page size, every initial
    window that is a positive multiple of the page size, every start offset inside the file. -/
theorem mmap_mode_records (delim : UInt8) (stripCr : Bool) (file : List UInt8) (page cap0 start : Nat)
    (hpage : 0 < page) (hcap : 0 < cap0) (hdvd : page ∣ cap0) (hstart : start ≤ file.length) :
    recordsMmap delim stripCr file page cap0 start = some (splitRecords delim stripCr (file.drop start)) := by
  obtain ⟨s', e, _⟩ := PV.Lemmas.Reader.readAll_mmap delim stripCr file page cap0 start hpage hcap hdvd hstart
  simp [recordsMmap, e]

/-- after end of input has been reported once it is reported on every further call (read mode). -/
theorem eof_stable_read (delim : UInt8) (stripCr : Bool) (cap0 : Nat) (hcap : 0 < cap0)
    (src : List UInt8) (sched : List Nat) (ls : List (List UInt8)) (s : RState)
    (h : readAll readBacking delim stripCr (src.length + 2) (src.length + 2) (initRead cap0 src sched) = some (ls, s)) :
    ∀ fuel, 0 < fuel → ∃ s', readLine readBacking delim stripCr fuel 0 s = .eof s' := by
  obtain ⟨s', e, e1, e2⟩ := PV.Lemmas.Reader.readAll_read delim stripCr cap0 hcap src sched
  obtain rfl : s' = s := (Prod.mk.inj (Option.some.inj (e.symm.trans h))).2
  exact PV.Lemmas.Reader.eof_stable readBacking delim stripCr s' e1 e2

/-- … and in mmap mode. -/
theorem eof_stable_mmap (delim : UInt8) (stripCr : Bool) (file : List UInt8) (page cap0 start : Nat)
    (hpage : 0 < page) (hcap : 0 < cap0) (hdvd : page ∣ cap0) (hstart : start ≤ file.length)
    (ls : List (List UInt8)) (s : MState)
    (h : readAll mmapBacking delim stripCr (file.length + 2) (file.length + 2) (initMmap file page cap0 start) = some (ls, s)) :
    ∀ fuel, 0 < fuel → ∃ s', readLine mmapBacking delim stripCr fuel 0 s = .eof s' := by
  obtain ⟨s', e, e1, e2⟩ := PV.Lemmas.Reader.readAll_mmap delim stripCr file page cap0 start hpage hcap hdvd hstart
  obtain rfl : s' = s := (Prod.mk.inj (Option.some.inj (e.symm.trans h))).2
  exact PV.Lemmas.Reader.eof_stable mmapBacking delim stripCr s' e1 e2

/-- the specification itself: records re-joined with the delimiter give back the input when no
    carriage return is stripped and the input ends with the delimiter (no byte lost). -/
theorem splitRecords_lossless (delim : UInt8) (bs : List UInt8) :
    (splitRecords delim false (bs ++ [delim])).flatMap (· ++ [delim]) = bs ++ [delim] :=
  PV.Lemmas.Records.splitRecords_lossless delim bs

/-- A regular file whose `mapsLeft`-th and later `mmap` calls fail (at the first window, at any later window, in
    the middle of a record), read with any schedule of short reads afterwards, yields exactly the records of the
    bytes from the start offset: nothing is lost, duplicated or reordered at the transition. -/
theorem fallback_records (delim : UInt8) (stripCr : Bool) (file : List UInt8) (page cap0 start mapsLeft : Nat)
    (sched : List Nat) (hpage : 0 < page) (hcap : 0 < cap0) (hdvd : page ∣ cap0) (hstart : start ≤ file.length) :
    recordsFallback delim stripCr file page cap0 start mapsLeft sched
      = some (splitRecords delim stripCr (file.drop start)) := by
  obtain ⟨s', e, _⟩ := PV.Lemmas.Reader.readAll_fallback delim stripCr file page cap0 start mapsLeft sched hpage hcap
    hdvd hstart
  simp [recordsFallback, e]

-- non-vacuity: a 2-byte page, the second mapping fails in the middle of the record "bcd"
example : recordsFallback 10 true [97, 10, 98, 99, 100, 10, 101] 2 4 0 1 [1, 1] = some [[97], [98, 99, 100], [101]] := by
  decide +kernel

-- non-vacuity
example : recordsRead 10 true 4 [97, 13, 10, 98, 10, 10, 99] [1, 2, 1, 3] = some [[97], [98], [], [99]] := by
  decide +kernel
example : recordsMmap 10 true [97, 13, 10, 98, 10, 10, 99] 4 4 1 = some [[], [98], [], [99]] := by
  decide +kernel

end PV.Props.C02
