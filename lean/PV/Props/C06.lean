import PV.Model.Tools
import PV.Spec.FirstOcc
import PV.Lemmas.Tools
/-
C06 — shard partitions the input by key, stably (the partition part; the validity of the
compressed output files is C15's `empty_stream_valid` / writer theorems, and the writer
threads are C16's ring theorems).
-/
namespace PV.Props.C06
open PV.Tools PV.Spec.FirstOcc

/-- the output files together contain every input line exactly once and nothing else. -/
theorem shard_partition (key : Line → Nat) (n : Nat) (hn : 0 < n) (ls : List Line) :
    (shard key n ls).flatten.Perm ls := by
  have h := PV.Lemmas.Tools.flatten_range_filter_perm (fun l => key l % n) ls n
  rwa [List.filter_eq_self.2 fun l _ => decide_eq_true (Nat.mod_lt _ hn)] at h

theorem shard_file_count (key : Line → Nat) (n : Nat) (ls : List Line) : (shard key n ls).length = n := by
  simp [shard]

/-- each file preserves input order. -/
theorem shard_each_sublist (key : Line → Nat) (n : Nat) (ls : List Line) :
    ∀ f ∈ shard key n ls, f.Sublist ls := by
  intro f hf
  obtain ⟨i, _, hi⟩ := List.mem_map.1 hf
  rw [← hi]
  exact List.filter_sublist

/-- the file chosen depends only on the key and the shard count. -/
theorem shard_index_pure (key : Line → Nat) (n i : Nat) (ls : List Line) (l : Line) :
    l ∈ shardFile key n i ls ↔ (l ∈ ls ∧ key l % n = i) := by
  simp [shardFile, List.mem_filter]

/-- all lines with equal key land in the same file. -/
theorem shard_colocated (key : Line → Nat) (n i : Nat) (ls : List Line) (a b : Line)
    (ha : a ∈ shardFile key n i ls) (hb : b ∈ ls) (hk : key a = key b) : b ∈ shardFile key n i ls := by
  simp only [shardFile, List.mem_filter, beq_iff_eq] at ha ⊢
  exact ⟨hb, by rw [← hk]; exact ha.2⟩

/-- deduplicating every shard gives, as a multiset, the same lines as deduplicating the whole
    input. -/
theorem dedupe_commutes (key : Line → Nat) (n : Nat) (hn : 0 < n) (ls : List Line) :
    ((shard key n ls).map (firstOccBy key)).flatten.Perm (firstOccBy key ls) := by
  rw [PV.Lemmas.Tools.shard_firstOcc]
  exact shard_partition key n hn _

/-- `--prefix p --number n` names: n distinct names, all of the same length. -/
theorem names_distinct (pfx : String) (n : Nat) :
    (shardNames pfx n).length = n ∧ (shardNames pfx n).Nodup :=
  ⟨by simp [shardNames], PV.Lemmas.Tools.shardNames_nodup pfx n⟩

-- non-vacuity
example : shard (fun l => l.length) 2 [[1], [2, 2], [3], []] = [[[2, 2], []], [[1], [3]]] := by decide +kernel
example : shardNames "p" 11 = ["p00", "p01", "p02", "p03", "p04", "p05", "p06", "p07", "p08", "p09", "p10"] := by decide +kernel

end PV.Props.C06
