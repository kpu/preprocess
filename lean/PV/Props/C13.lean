import PV.Model.Tools2
import PV.Spec.FirstOcc
import PV.Model.Table
import PV.Spec.Map
import PV.Lemmas.Table
import PV.Lemmas.Tools
import PV.Model.Substitute
import PV.Lemmas.Substitute
import PV.Model.MVocab
import PV.Lemmas.MVocab
/-
C13 — the seen-set answers membership correctly after any insertion history.
The table's invariant and the proofs about it are in PV/Lemmas/Table.lean; the three tools that sit on the table
(vocab, substitute, MutableVocab) go through PV/Lemmas/Tools.lean (`Seen`), Substitute.lean and MVocab.lean (`Rep`).
-/
namespace PV.Props.C13
open PV.Table PV.Spec.Map

/-- Every history of insert-if-absent / lookup operations on non-zero keys, started from the
    freshly constructed table, runs to completion (no probing loop diverges, the "table full"
    exception is never raised, however often the table doubles) and gives exactly the answers of
    a finite map: 'present' exactly for the keys inserted so far, 'already there' exactly on
    repeats, and the value returned is the one stored with the key's first insertion. -/
theorem history_refines (ops : List Op) (h : ∀ op ∈ ops, opKey op ≠ 0) :
    ∃ t, run init ops = some ((PV.Spec.Map.run [] ops).1, t) := by
  obtain ⟨t, ht, _, _⟩ := PV.Lemmas.Table.run_inv ops init [] PV.Lemmas.Table.init_inv
    PV.Lemmas.Table.init_abs h
  exact ⟨t, ht⟩

/-- Growth preserves contents: doubling a reachable table keeps every (key, value) pair and
    adds none. -/
theorem double_preserves (ops : List Op) (h : ∀ op ∈ ops, opKey op ≠ 0) (ans : List Ans) (t : Table)
    (hr : run init ops = some (ans, t)) :
    ∃ t', double t = some t' ∧ t'.buckets = 2 * t.buckets ∧
      ∀ k, k ≠ 0 → find t' k = find t k :=
  PV.Lemmas.Table.double_preserves_of_inv t (PV.Lemmas.Table.inv_of_run h hr)

/-- The number of stored entries always stays below the number of buckets (at least one bucket
    is empty, so every probe terminates) and the bucket count is a power of two ≥ 8. -/
theorem reachable_shape (ops : List Op) (h : ∀ op ∈ ops, opKey op ≠ 0) (ans : List Ans) (t : Table)
    (hr : run init ops = some (ans, t)) :
    t.entries < t.buckets ∧ (∃ n, 3 ≤ n ∧ t.buckets = 2 ^ n) ∧ t.mask + 1 = t.buckets :=
  PV.Lemmas.Table.shape_of_inv t (PV.Lemmas.Table.inv_of_run h hr)

-- non-vacuity: a history that forces two doublings with wrap-around clusters (keys ≡ 7 mod 8)
example : (run init ((List.range 20).map (fun i => Op.insert (8 * i + 7) i))).map (fun r => r.2.buckets) = some 32 := by
  decide +kernel

/-! #### vocab (PV.Tools2): the seen-set over words -/
section Vocab
open PV.Tools PV.Tools2 PV.Spec.FirstOcc

/-- vocab (through the real hash-table model) prints exactly the first occurrence of every distinct word (up to
    64-bit collisions; a word hashing to the invalid key 0 is excluded), NUL-terminated, in order. -/
theorem vocab_first_occurrences (input : List UInt8) (h0 : ∀ w ∈ vocabWords input, wordKey w ≠ 0) :
    vocab input = some ((firstOccBy wordKey (vocabWords input)).flatMap (· ++ [0])) := by
  rw [vocab, dedupe, PV.Lemmas.Tools.dedupeLoop_spec wordKey _ PV.Lemmas.Tools.seen_init h0]
  rfl

-- non-vacuity
example : vocabWords [98, 32, 97, 32, 32, 98, 9, 99, 10, 97] = [[98], [97], [98], [99], [97]] := by decide +kernel

end Vocab

section Substitute
/-! Values stay attached to their key across growth, through a TOOL: `substitute` keeps the value of the first line of every
    key in the hash-table entry (written through the iterator FindOrInsert returns) and must print exactly that value for
    every later line with the key, however often the table has doubled in between. -/
open PV.Substitute PV.Tools PV.Fields

/-- all sentence keys of the well-formed lines of an input -/
def keysOf (ls : List Line) : List Nat :=
  ls.filterMap (fun l => match rangeFields l ranges 9 with
    | [_, p1, _, _] => some (key p1)
    | _ => none)

/-- `substitute` through the real table model (any number of doublings) equals the table-free specification: a line whose
    sentences were seen before is printed with the value of the FIRST line that had them; 64-bit collisions and a key hashing
    to the invalid key 0 excepted. -/
theorem substitute_refines (ls : List Line) (h0 : ∀ k ∈ keysOf ls, k ≠ 0) :
    substitute ls = spec ls :=
  PV.Lemmas.Substitute.loop_spec ls PV.Lemmas.Substitute.rep_init fun l hl p0 p1 p2 p3 h =>
    h0 _ (List.mem_filterMap.2 ⟨l, hl, by rw [h]⟩)

/-- a line with fewer than six fields stops the tool with an error, whatever came before (nothing is guessed) -/
theorem short_line_is_error (pre : List Line) (l : Line) (post : List Line)
    (hl : (rangeFields l ranges 9).length ≠ 4) :
    spec (pre ++ l :: post) = none :=
  PV.Lemmas.Substitute.specGo_short l post hl pre []

-- non-vacuity: "a\tb\tc\td\tV1\tx", "e\tf\tc\td\tV2\ty"  ->  second line printed with V1
example : spec [[97,9,98,9,99,9,100,9,86,49,9,120], [101,9,102,9,99,9,100,9,86,50,9,121]]
    = some [[97,9,98,9,99,9,100,9,86,49,9,120], [101,9,102,9,99,9,100,9,86,49,9,121]] := by decide +kernel
example : substitute [[97,9,98,9,99,9,100,9,86,49,9,120], [101,9,102,9,99,9,100,9,86,50,9,121]]
    = some [[97,9,98,9,99,9,100,9,86,49,9,120], [101,9,102,9,99,9,100,9,86,49,9,121]] := by decide +kernel
example : spec [[97,9,98,9,99,9,100,9,86]] = none := by decide +kernel      -- five fields

end Substitute

/-! ### util::MutableVocab (word ids of train_case / apply_case / truecase): values stay attached to their keys -/
section MVocab
open PV.MVocab

/-- FindOrInsert over any word list (no word hashing to 0) never fails and hands out the first-occurrence ids 1, 2, …;
afterwards Size() is one more than the number of distinct keys and Find answers that id, 0 (kUNK) for unknown words -/
theorem mvocab_refines (ws : List Word) (h0 : ∀ w ∈ ws, key w ≠ 0) :
    ∃ v, insertAll init ws = some ((specInsertAll [] ws).1, v) ∧
      v.strings.length = (specInsertAll [] ws).2.length + 1 ∧
      (∀ w, key w ≠ 0 → find v w = some (specFind (specInsertAll [] ws).2 w)) :=
  PV.Lemmas.MVocab.insertAll_refines ws h0

/-- two positions receive the same id exactly when their words have the same key, and ids are dense in 1..#distinct -/
theorem mvocab_ids (ws : List Word) :
    (∀ i j, i < ws.length → j < ws.length →
      (((specInsertAll [] ws).1.getD i 0 = (specInsertAll [] ws).1.getD j 0) ↔ key (ws.getD i []) = key (ws.getD j []))) ∧
    (∀ x ∈ (specInsertAll [] ws).1, 1 ≤ x ∧ x ≤ (specInsertAll [] ws).2.length) :=
  ⟨fun i j hi hj => PV.Lemmas.MVocab.spec_ids_eq_iff ws i j hi hj, PV.Lemmas.MVocab.spec_ids_range ws⟩

/-- `String(FindOrInsert(w)) = w` for every position of the input, at the end of the run: the stored string stays attached to its id -/
theorem mvocab_strings_attached (ws : List Word) (h0 : ∀ w ∈ ws, key w ≠ 0)
    (hinj : ∀ a ∈ ws, ∀ b ∈ ws, key a = key b → a = b) (ids : List Nat) (v : V)
    (hr : insertAll init ws = some (ids, v)) :
    ∀ i, i < ws.length → v.strings.getD (ids.getD i 0) [] = ws.getD i [] :=
  PV.Lemmas.MVocab.strings_attached ws h0 hinj ids v hr

/-- the carve-out is real: the empty word's key IS 0 (MutableVocab answers kUNK for it) -/
theorem mvocab_empty_word_key_zero : key [] = 0 := PV.Lemmas.MVocab.empty_word_key_zero

-- non-vacuity: "a" "b" "a" get 1 2 1 and the hypotheses hold for them
example : (insertAll init [[97], [98], [97]]).map (fun r => (r.1, r.2.strings)) = some ([1, 2, 1], [unk, [97], [98]]) := by decide +kernel
example : key [97] ≠ 0 ∧ key [98] ≠ 0 ∧ key [97] ≠ key [98] := by decide +kernel
end MVocab

end PV.Props.C13
