import PV.Model.Cache
import PV.Spec.FirstOcc
import PV.Lemmas.Cache
/-
C04 — cache is transparent: the child's answers per key, one child call per distinct key.
(Interleaving of the two threads, flush points and pipes: C05's LTS theorems with this tool's
parameters; exit status: C11.)
-/
namespace PV.Props.C04
open PV.Cache PV.Spec.FirstOcc

/-- the first input line having the same key as `l` (among `lines`), `l` itself if none. -/
def firstWithKey (key : Line → Nat) (lines : List Line) (l : Line) : Line :=
  (lines.find? (fun x => key x == key l)).getD l

/-- the child receives precisely the first-occurrence lines, each once and in input order. -/
theorem child_sees_firstOcc (key : Line → Nat) (lines : List Line) :
    childInput key lines = firstOccBy key lines :=
  PV.Lemmas.Cache.input_fst key [] lines

/-- cache emits one line per input line, in input order, where the line for input i is the child's
    answer to the first input line having the same key. -/
theorem cache_output_spec (key : Line → Nat) (child : Line → Line) (lines : List Line) :
    run key child lines = some (lines.map (fun l => child (firstWithKey key lines l))) := by
  have h := PV.Lemmas.Cache.output_spec key child (fun k => child ((lines.find? fun x => key x == k).getD [])) lines []
    nofun fun l hl => by
      rw [PV.Lemmas.Cache.input_fst] at hl
      rw [PV.Lemmas.FirstOcc.find?_of_mem_firstOccGo key [] lines l hl]
      rfl
  refine h.trans (congrArg some (List.map_congr_left fun l hl => ?_))
  -- `l` has its own key, so the search succeeds and the default is never used
  rw [firstWithKey]
  cases hx : lines.find? fun x => key x == key l with
  | none => exact absurd (beq_self_eq_true _) (List.find?_eq_none.1 hx l hl)
  | some x => rfl

/-- with whole-line keys (no two different lines share a key) this is exactly the output of running
    the child directly. -/
theorem whole_line_key_transparent (key : Line → Nat) (child : Line → Line) (lines : List Line)
    (hinj : ∀ a ∈ lines, ∀ b ∈ lines, key a = key b → a = b) :
    run key child lines = some (lines.map child) := by
  rw [cache_output_spec]
  refine congrArg some (List.map_congr_left fun l hl => congrArg child ?_)
  rw [firstWithKey]
  cases hf : lines.find? fun x => key x == key l with
  | none => rfl
  | some x =>
    have hk := List.find?_some hf
    exact hinj x (List.mem_of_find?_eq_some hf) l hl (beq_iff_eq.1 hk)

/-- one output line per input line. -/
theorem one_line_per_line (key : Line → Nat) (child : Line → Line) (lines out : List Line)
    (h : run key child lines = some out) : out.length = lines.length := by
  rw [cache_output_spec] at h
  cases h
  exact List.length_map _

-- non-vacuity
example : run (fun l => l.length) (fun l => 120 :: l) [[1], [2, 2], [3], [4, 4]] = some [[120, 1], [120, 2, 2], [120, 1], [120, 2, 2]] := by decide +kernel

end PV.Props.C04
