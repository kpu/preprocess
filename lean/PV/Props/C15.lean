import PV.Model.Compress
import PV.Lemmas.Compress
/-
C15 — compressed I/O is transparent (the stream logic around the codecs).
The codec itself (zlib / bzip2 / liblzma) is an oracle: the theorems hold for EVERY sequence of
codec answers the controller accepts; that the real codecs' output is a valid stream decoding to the
input is checked against independent decoders (Python zlib/bz2/lzma, gzip/bzip2 tools) in the tie.
-/
namespace PV.Props.C15
open PV.Compress PV.Lemmas.Compress

/-- Writer accounting: whatever the write sizes, flush points and codec answers, the bytes handed
    to the file followed by the bytes still in the 4 KiB buffer are exactly the bytes the codec
    produced, in order — nothing is lost, duplicated or reordered at a buffer turn — and the codec
    never consumed more input than it was given. -/
theorem writer_accounting (bufSize kMin : Nat) (evs : List WEv) (s : WState)
    (h : wrun (winit bufSize kMin) evs = some s) :
    s.file ++ s.buf = List.range s.produced ∧ s.consumed ≤ s.given ∧ s.buf.length = s.bufSize - s.availOut := by
  have hi := winv_run (winv_init bufSize kMin) h
  exact ⟨hi.conserve, Nat.le.intro hi.input, hi.buf_len⟩

/-- After a completed flush everything produced is in the file and all input was consumed. -/
theorem flush_completes (bufSize kMin : Nat) (evs : List WEv) (s : WState)
    (h : wrun (winit bufSize kMin) evs = some s) (hi : s.mode = .idle) (hd : s.dirty = false) :
    s.file = List.range s.produced ∧ s.consumed = s.given ∧ 1 ≤ s.members := by
  have hv := winv_run (winv_init bufSize kMin) h
  have hacc := hv.conserve
  have hinp := hv.input
  have hc := hv.ctl
  rw [hi] at hc
  rw [hc.2 hd, List.append_nil] at hacc
  rw [hc.1] at hinp
  exact ⟨hacc, hinp, hv.mem hd⟩

/-- A stream that is flushed without any write still runs the codec's Finish: an (empty) member is
    emitted, so the output file is never a zero-byte invalid stream. -/
theorem empty_stream_valid (bufSize kMin k : Nat) (hk : k < bufSize) (hm : kMin ≤ bufSize) :
    ∃ s, wrun (winit bufSize kMin) [.flush true, .fin bufSize, .findone k, .drain (bufSize - k)] = some s ∧
      s.members = 1 ∧ s.file = List.range (bufSize - k) ∧ s.dirty = false := by
  -- `simp` runs the controller over the four events, whose guards hold by `hm` and `hk`
  simp [wrun, wstep, winit, WState.produce, WState.drainAll, hm, Nat.ne_of_lt hk, Nat.le_of_lt hk]

set_option linter.unusedVariables false in -- statement kept as given; some binders are not needed
/-- the writer never calls the codec with less than kMin output space, and never drains an empty
    buffer inside the loops. -/
theorem writer_space (bufSize kMin : Nat) (evs pre : List WEv) (s : WState) (e : WEv)
    (h : wrun (winit bufSize kMin) pre = some s) (h2 : (wstep s e).isSome)
    (hk : 1 ≤ kMin) (hb : kMin ≤ bufSize) :
    (∀ ain aout, e = .proc ain aout → kMin ≤ aout) ∧ (∀ aout, e = .fin aout → kMin ≤ aout) := by
  have hv := winv_run (winv_init bufSize kMin) h
  have hc := hv.ctl
  -- with the whole buffer free there are `bufSize ≥ kMin` bytes of space
  have hfull : s.availOut = s.bufSize → kMin ≤ s.availOut := fun hf => by rw [hf, hv.bufSize_eq]; exact hb
  obtain ⟨s', h2⟩ := Option.isSome_iff_exists.mp h2
  constructor
  · rintro ain aout rfl
    rw [wstep] at h2
    split at h2
    · obtain ⟨⟨hk, -, rfl⟩, -⟩ := Option.ite_some_none_eq_some.mp h2
      exact hv.kMin_eq ▸ hk
    next hm =>
      rw [hm] at hc
      obtain ⟨⟨-, rfl⟩, -⟩ := Option.ite_some_none_eq_some.mp h2
      exact hfull hc
    · cases h2
  · rintro aout rfl
    rw [wstep] at h2
    split at h2
    · obtain ⟨⟨hk, rfl⟩, -⟩ := Option.ite_some_none_eq_some.mp h2
      exact hv.kMin_eq ▸ hk
    next hm =>
      rw [hm] at hc
      obtain ⟨rfl, -⟩ := Option.ite_some_none_eq_some.mp h2
      exact hfull hc.2
    · obtain ⟨⟨-, hk⟩, -⟩ := Option.ite_some_none_eq_some.mp h2
      exact hv.kMin_eq ▸ hk
    · cases h2

/-- Read cannot spin: with a codec that honours the contract `progressOk` (a call that has input
    consumes some of it or produces output), the number of codec calls plus the input still unconsumed
    is at most (compressed bytes supplied + number of Read calls): inside one Read call every codec
    call but the last consumes at least one input byte.  (A bound that counts the events themselves,
    `s.steps ≤ evs.length`, holds for every accepted run with or without the contract and says
    little: every codec call is a `proc` event of its own, `PV.Lemmas.Compress.rsteps_run`.) -/
theorem reader_no_spin (already : Nat) (evs : List REv) (s : RState)
    (h : rrun (rinit already) evs = some s) (hp : progressOk evs = true) :
    s.steps + s.availIn ≤ s.fed + evs.countP (fun e => e matches .read _) := by
  -- no call is pending at the start; `isRead` unfolds to the `matches` of the statement
  have hv := rinv_run (rinv_init already) (fun _ _ _ _ hm => nomatch hm) hp h
  exact Nat.le_trans (Nat.le_add_right ..) (Nat.zero_add _ ▸ hv.pot)

-- `progressOk` is really needed for `reader_no_spin`: a codec that neither consumes nor produces is
-- accepted by the controller and spins (3 calls > 1 byte supplied + 1 Read) — only `progressOk` rejects it
example : let evs : List REv := [.read 10, .proc 1 10, .ok 1 0, .proc 1 10, .ok 1 0, .proc 1 10, .ok 1 0]
    ((rrun (rinit 1) evs).map (fun s => (s.steps, s.fed)), evs.countP (fun e => e matches .read _), progressOk evs)
      = (some (3, 1), 1, false) := by decide
-- the bound is attained: 2 bytes supplied, 1 Read, 3 codec calls (the last one at end of file)
example : let evs : List REv := [.read 10, .proc 2 10, .ok 1 0, .proc 1 10, .ok 0 0, .input 0, .proc 0 10]
    ((rrun (rinit 2) evs).map (fun s => (s.steps, s.availIn, s.fed)), evs.countP (fun e => e matches .read _), progressOk evs)
      = (some (3, 0, 2), 1, true) := by decide

set_option linter.unusedVariables false in -- statement kept as given; some binders are not needed
/-- a Process call at end of file that yields nothing is followed by no further codec call. -/
theorem truncated_stream_fails (already : Nat) (evs : List REv) (s : RState) (space : Nat)
    (h : rrun (rinit already) evs = some s) (hm : s.mode = .head true) (ha : s.availIn = 0) :
    ∀ s1 s2, rstep s (.proc 0 space) = some s1 → rstep s1 (.ok 0 s.nout) = some s2 → s2.mode = .failed :=
  fun _ _ => PV.Lemmas.Compress.truncated_fails hm space

/-- what a Read call returns never exceeds the amount asked for. -/
theorem reader_bounds (already : Nat) (evs : List REv) (s : RState)
    (h : rrun (rinit already) evs = some s) : s.nout ≤ s.amount ∨ s.mode = .idle :=
  .inl (rbound_run (Nat.le_refl 0) h)

-- non-vacuity: the trace of `z.write gzip w3,f` recorded from the real code
example : (wrun (winit 4096 6) [.write 3, .proc 3 4096, .did 0 4086, .flush true, .fin 4086, .findone 4073, .drain 23]).map
    (fun s => (s.file.length, s.members, s.consumed)) = some (23, 1, 3) := by decide

end PV.Props.C15
