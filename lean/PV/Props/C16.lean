import PV.Model.QueuesLate
import PV.Model.Queues
import PV.Model.RingReserve
import PV.Lemmas.Queues.PCQ
import PV.Lemmas.Queues.USQ
import PV.Lemmas.Queues.Ring
/-
C16 — thread hand-off queues deliver every item once, in order, without deadlock.
All statements are over `Reachable`, i.e. every interleaving of the LTS steps, for every
capacity, every number of producers/consumers, every item count and every write-size sequence.
-/
namespace PV.Props.C16
open PV.Queues

/-! ### PCQueue -/
section PCQ
open PCQ

/-- a slot is never written while it still holds an unconsumed value or is being read, and never
    read while empty or being written. -/
theorem pcq_slot_safety (p : Params) (hc : 1 ≤ p.cap) (s : State) (hr : Reachable p s) : s.bad = false :=
  (PV.Lemmas.Queues.PCQ.inv_of_reachable hc hr).nb

/-- items come out in the order they went in (global FIFO of the ring). -/
theorem pcq_fifo (p : Params) (hc : 1 ≤ p.cap) (s : State) (hr : Reachable p s) : s.reads <+: s.writes :=
  (PV.Lemmas.Queues.PCQ.inv_of_reachable hc hr).fifo

/-- each producer's items are written in that producer's order, and what a consumer received is a
    subsequence of the read order (so: in production order per producer). -/
theorem pcq_per_producer_order (p : Params) (hc : 1 ≤ p.cap)
    (hid : ∀ (i : Nat) (its : List Item), p.items[i]? = some its → ∀ it ∈ its, it.1 = i)
    (s : State) (hr : Reachable p s) :
    (∀ i, (s.writes.filter (fun it => it.1 == i)) <+: p.items.getD i []) ∧
    (∀ (j : Nat) (c : Cons), s.cons[j]? = some c → c.got.Sublist s.reads) := by
  have h3 := PV.Lemmas.Queues.PCQ.inv3_of_reachable hc hid hr
  exact ⟨fun i => by rw [h3.ord i]; exact List.take_prefix _ _, h3.sub⟩

/-- exactly once: when everybody is done, the consumers together hold exactly the produced items. -/
theorem pcq_exactly_once (p : Params) (hc : 1 ≤ p.cap) (hq : totalItems p = totalQuota p)
    (s : State) (hr : Reachable p s) (hf : Final p s) :
    s.reads = s.writes ∧ s.writes.Perm p.items.flatten ∧ (s.cons.map (·.got)).flatten.Perm p.items.flatten :=
  PV.Lemmas.Queues.PCQ.exactly_once hq (PV.Lemmas.Queues.PCQ.inv_of_reachable hc hr)
    (PV.Lemmas.Queues.PCQ.inv2_of_reachable hc hr) hf

/-- no thread is left blocked forever while matching producers / consumers exist. -/
theorem pcq_no_deadlock (p : Params) (hc : 1 ≤ p.cap) (hq : totalItems p = totalQuota p)
    (s : State) (hr : Reachable p s) : Final p s ∨ ∃ l s', step p s l = some s' :=
  PV.Lemmas.Queues.PCQ.no_deadlock hc hq (PV.Lemmas.Queues.PCQ.inv_of_reachable hc hr)
end PCQ

/-! ### UnboundedSingleQueue -/
section USQ
open USQ

/-- the consumer never follows an unlinked `next`, never reads an unwritten entry, and the producer
    never touches a page the consumer has freed. -/
theorem usq_safe (p : Params) (hp : 1 ≤ p.pageSize) (s : State) (hr : Reachable p s) : s.bad = false :=
  (PV.Lemmas.Queues.USQ.inv_of_reachable hp hr).bad

theorem usq_fifo (p : Params) (hp : 1 ≤ p.pageSize) (s : State) (hr : Reachable p s) :
    s.got = List.range s.got.length ∧ s.got.length ≤ s.written.length :=
  PV.Lemmas.Queues.USQ.fifo (PV.Lemmas.Queues.USQ.inv_of_reachable hp hr)

theorem usq_no_deadlock (p : Params) (hp : 1 ≤ p.pageSize) (s : State) (hr : Reachable p s) :
    Final p s ∨ ∃ l s', step p s l = some s' :=
  PV.Lemmas.Queues.USQ.progress (PV.Lemmas.Queues.USQ.inv_of_reachable hp hr)
end USQ

/-! ### the ring with write() and the in-place operator<< path (short blocks); the trace acceptor uses this model -/
section Ring2
open Ring2

/-- the caller and the writer thread never hold the same block. -/
theorem ring2_exclusive (p : Params) (hn : 2 ≤ p.nBlocks) (hb : 1 ≤ p.blockSize) (hw : p.WF) (s : State) (hr : Reachable p s) :
    s.bad = false := by
  obtain ⟨A, D, Qd, h⟩ := PV.Lemmas.Queues.Ring2.inv_of_reachable (Nat.le_of_succ_le hn) hb hw hr
  exact h.bad

/-- the bytes given to the Writer are always a prefix of the concatenation of all operations' bytes, -/
theorem ring2_bytes_prefix (p : Params) (hn : 2 ≤ p.nBlocks) (hb : 1 ≤ p.blockSize) (hw : p.WF) (s : State) (hr : Reachable p s) :
    s.file <+: allBytes p := by
  obtain ⟨A, D, Qd, h⟩ := PV.Lemmas.Queues.Ring2.inv_of_reachable (Nat.le_of_succ_le hn) hb hw hr
  exact PV.Lemmas.Queues.Ring2.bytes_prefix h

/-- and once the destructor has returned the file is exactly that concatenation (also when short blocks were handed
    over in between). -/
theorem ring2_bytes (p : Params) (hn : 2 ≤ p.nBlocks) (hb : 1 ≤ p.blockSize) (hw : p.WF) (s : State) (hr : Reachable p s)
    (hf : Final s) : s.file = allBytes p := by
  obtain ⟨A, D, Qd, h⟩ := PV.Lemmas.Queues.Ring2.inv_of_reachable (Nat.le_of_succ_le hn) hb hw hr
  exact PV.Lemmas.Queues.Ring2.bytes_final h hf

/-- no reachable state is stuck before the destructor has returned. -/
theorem ring2_no_deadlock (p : Params) (hn : 2 ≤ p.nBlocks) (hb : 1 ≤ p.blockSize) (hw : p.WF) (s : State) (hr : Reachable p s) :
    Final s ∨ ∃ l s', step p s l = some s' := by
  obtain ⟨A, D, Qd, h⟩ := PV.Lemmas.Queues.Ring2.inv_of_reachable (Nat.le_of_succ_le hn) hb hw hr
  exact PV.Lemmas.Queues.Ring2.progress hn h

/-- every execution is finite. -/
theorem ring2_terminates (p : Params) (hn : 2 ≤ p.nBlocks) (hb : 1 ≤ p.blockSize) (hw : p.WF) :
    ∃ μ : State → Nat, ∀ s l s', Reachable p s → step p s l = some s' → μ s' < μ s := by
  have _ := hn  -- `hn`, `hw`, `Reachable`: not needed, the measure decreases on every step from every state
  have _ := hw
  exact ⟨PV.Lemmas.Queues.Ring2.mu, fun _ _ _ _ hs => PV.Lemmas.Queues.Ring2.mu_decreases hb hs⟩

/-- the Ensure amounts of the real stream satisfy `WF`: a block holds the longest in-place text. -/
theorem kBlockSize_holds_any_number : PV.Gen.kToStringMaxBytes ≤ PV.Gen.kBlockSize := by
  decide

-- non-vacuity: blockSize 4, "abc" written, then a 2-byte number with Ensure(3): the block holding "abc" is handed over short
example : ((Ring2.runTrace ⟨3, 4, [⟨0, [97, 98, 99]⟩, ⟨3, [49, 50]⟩]⟩ (Ring2.init ⟨3, 4, [⟨0, [97, 98, 99]⟩, ⟨3, [49, 50]⟩]⟩)
    [.pAcquire, .pCall, .pCopy, .pCall, .pSpill, .pAcquire, .pCopy, .pSpill, .cAcquire, .cWrite, .cRelease, .cAcquire, .cWrite, .cRelease,
     .pAcquire, .pSpill, .cAcquire, .cWrite, .pAcquire, .pJoin]).map (·.file)) = some [97, 98, 99, 49, 50] := by
  decide

end Ring2

/-! ### BlockQueue / ThreadedBufferedStream -/
section Ring
open Ring

/-- the caller and the writer thread never hold the same block. -/
theorem ring_exclusive (p : Params) (hn : 2 ≤ p.nBlocks) (hb : 1 ≤ p.blockSize) (s : State) (hr : Reachable p s) :
    s.bad = false := by
  open PV.Lemmas.Queues.Ring in
  exact ring2_exclusive (up p) hn hb (up_wf p) (upS s) (reachable_up hr)

/-- the bytes given to the Writer are always a prefix of the concatenation of all write() calls, -/
theorem ring_bytes_prefix (p : Params) (hn : 2 ≤ p.nBlocks) (hb : 1 ≤ p.blockSize) (s : State) (hr : Reachable p s) :
    s.file <+: p.calls.flatten := by
  open PV.Lemmas.Queues.Ring in
  exact allBytes_up p ▸ ring2_bytes_prefix (up p) hn hb (up_wf p) (upS s) (reachable_up hr)

/-- and once the destructor has returned the file is exactly that concatenation. -/
theorem ring_bytes (p : Params) (hn : 2 ≤ p.nBlocks) (hb : 1 ≤ p.blockSize) (s : State) (hr : Reachable p s)
    (hf : Final s) : s.file = p.calls.flatten := by
  open PV.Lemmas.Queues.Ring in
  exact allBytes_up p ▸ ring2_bytes (up p) hn hb (up_wf p) (upS s) (reachable_up hr) (congrArg upP hf)

/-- destroying the stream always flushes the remainder and joins: no reachable state is stuck before
    the destructor has returned. -/
theorem ring_no_deadlock (p : Params) (hn : 2 ≤ p.nBlocks) (hb : 1 ≤ p.blockSize) (s : State) (hr : Reachable p s) :
    Final s ∨ ∃ l s', step p s l = some s' := by
  open PV.Lemmas.Queues.Ring in
  exact (ring2_no_deadlock (up p) hn hb (up_wf p) (upS s) (reachable_up hr)).imp (upP_eq _ _).mp fun ⟨_, _, h⟩ => step_of_up h

/-- every execution is finite. -/
theorem ring_terminates (p : Params) (hn : 2 ≤ p.nBlocks) (hb : 1 ≤ p.blockSize) :
    ∃ μ : State → Nat, ∀ s l s', Reachable p s → step p s l = some s' → μ s' < μ s := by
  open PV.Lemmas.Queues.Ring in
  obtain ⟨μ, hμ⟩ := ring2_terminates (up p) hn hb (up_wf p)
  exact ⟨μ ∘ upS, fun s l s' hr hs => hμ _ _ _ (reachable_up hr) (by rw [step_up, hs]; rfl)⟩

/-- the ring in the source has enough blocks for these theorems (regenerated constant). -/
theorem kBlocks_ok : 2 ≤ PV.Gen.kBlocks ∧ 1 ≤ PV.Gen.kBlockSize := by
  decide

/-- with a single block the stream would deadlock (why `2 ≤ nBlocks` is needed). -/
theorem ring_deadlocks_with_one_block :
    ∃ (p : Params) (s : State), p.nBlocks = 1 ∧ 1 ≤ p.blockSize ∧ Reachable p s ∧ ¬ Final s ∧ ∀ l, step p s l = none := by
  -- no calls, then the destructor: after `pAcquire, pSpill, cAcquire, cWrite` the poison has taken the only block, the writer thread
  -- has exited without releasing it, and the caller waits for a block
  refine ⟨⟨1, 1, []⟩,
    { output := 1, trash := 0, blocks := [[]], pCur := 0, pPc := .posted, fill := [], data := [], calls := [],
      poisoned := true, cCur := 0, cPc := .exited, file := [], bad := false }, rfl, Nat.le_refl 1, ?_, nofun, ?_⟩
  · exact .step (l := .cWrite) (.step (l := .cAcquire) (.step (l := .pSpill) (.step (l := .pAcquire) .init rfl) rfl) rfl) rfl
  · intro l; cases l <;> decide
end Ring

-- non-vacuity: a complete PCQueue run with capacity 1
example : ((PCQ.runTrace ⟨1, [[(0, 0), (0, 1)]], [2]⟩ (PCQ.init ⟨1, [[(0, 0), (0, 1)]], [2]⟩)
    [.pWait 0, .pEnter 0, .pLeave 0, .pPost 0, .cWait 0, .cEnter 0, .cLeave 0, .cPost 0,
     .pWait 0, .pEnter 0, .pLeave 0, .pPost 0, .cWait 0, .cEnter 0, .cLeave 0, .cPost 0]).map (·.reads)) = some [(0, 0), (0, 1)] := by
  decide

/-! Why `Consume` copies the value INSIDE the locked block.  `PV.Queues.PCQLate` is the same system with the copy moved after the
    unlock ("the slot is not recycled until empty_ is posted").  That sentence is true for one consumer only: -/
section LateCopy
open PV.Queues PV.Queues.PCQ

def lateParams : Params := { cap := 2, items := [[(0, 1), (0, 2), (0, 3)]], quotas := [2, 1] }

/-- the producer fills both slots; consumer 0 claims slot 0 but has not copied yet; consumer 1 claims slot 1, copies, posts;
    the producer, woken by that post, writes slot 0; consumer 0 copies -/
def lateTrace : List PCQLate.Label :=
  [.prod (.pWait 0), .prod (.pEnter 0), .prod (.pLeave 0), .prod (.pPost 0),
   .prod (.pWait 0), .prod (.pEnter 0), .prod (.pLeave 0), .prod (.pPost 0),
   .cWait 0, .cClaim 0, .cWait 1, .cClaim 1, .cCopy 1, .cPost 1,
   .prod (.pWait 0), .prod (.pEnter 0), .prod (.pLeave 0), .prod (.pPost 0), .cCopy 0]

/-- with the copy outside the lock, capacity 2, one producer and two consumers there is a schedule on which a claimed slot is
    overwritten before it was copied: items 1, 2, 3 are written, items 2 and 3 are read, item 1 is lost (contrast `pcq_slot_safety`
    and `pcq_fifo`, which hold for every schedule of the real system). -/
theorem late_copy_unsafe_with_two_consumers :
    ∃ tr, (PCQLate.runTrace lateParams (PCQLate.init lateParams) tr).map (fun s => (s.base.bad, s.base.reads, s.base.writes))
      = some (true, [(0, 2), (0, 3)], [(0, 1), (0, 2), (0, 3)]) :=
  ⟨lateTrace, by decide +kernel⟩

end LateCopy

/-! The same for the unbounded queue: `PV.Queues.USQLate` links a new page after the post for its first entry. -/
section LateLink
open PV.Queues PV.Queues.USQ

/-- page size 1, two items: the second item opens page 1; the consumer, woken by its post, steps off page 0 before the link exists -/
def lateLinkTrace : List USQLate.Label :=
  [.pPage, .pWrite, .pPost, .pPage, .pWrite, .pPost, .cWait, .cPage, .cRead, .cWait, .cPage]

/-- linking a new page after the semaphore post is unsafe: there is a schedule on which the consumer follows a null `next`
    (contrast `usq_safe`, which holds for every schedule of the real order: allocate, link, write, post). -/
theorem late_link_unsafe :
    ∃ tr, (USQLate.runTrace ⟨1, 2⟩ USQLate.init tr).map (fun s => s.base.bad) = some true :=
  ⟨lateLinkTrace, by decide +kernel⟩

end LateLink

end PV.Props.C16
