import PV.Model.Warc
import PV.Lemmas.Warc
/-
C17 — WARC records are framed exactly (reader part; the parallel part is in the LTS section below
once added).
-/
namespace PV.Props.C17
open PV.Warc PV.Lemmas.Warc

/-- a well-formed record: version line, extra header lines (non-empty, no CR/LF, not a
    Content-Length header), the Content-Length header, blank line, body, CRLF CRLF. -/
def crlf : List UInt8 := [13, 10]
def str (s : String) : List UInt8 := s.toUTF8.toList
def natStr (n : Nat) : List UInt8 := (toString n).toUTF8.toList

def OkHeader (h : List UInt8) : Prop :=
  h ≠ [] ∧ (13 : UInt8) ∉ h ∧ (10 : UInt8) ∉ h ∧ ¬ ((h.take 15).map toLowerByte = contentLengthKey)

def mkRecord (hs : List (List UInt8)) (body : List UInt8) : List UInt8 :=
  str "WARC/1.0" ++ crlf ++ hs.flatMap (· ++ crlf) ++ str "Content-Length: " ++ natStr body.length ++ crlf ++ crlf ++
    body ++ crlf ++ crlf

private theorem records_parse (input : List UInt8) (sched : List Nat) :
    records input sched = parse (str "WARC/1.0") input :=
  records_eq input sched

private theorem ver_lf : (10 : UInt8) ∉ str "WARC/1.0" := ver_ok.2

private theorem natStr_dec (n : Nat) : IsDec (natStr n) n := toString_dec n

private theorem rejected {input : List UInt8} {e : Err} (h : readSpec (str "WARC/1.0") input = .error e)
    (sched : List Nat) : records input sched = ([], some e) := by
  rw [records_parse, parse_eq, h]

/-- Every fragmentation of the stream gives the same records and the same verdict. -/
theorem chunking_independent (input : List UInt8) (s1 s2 : List Nat) :
    records input s1 = records input s2 := by
  rw [records_parse, records_parse]

/-- The records tile the input: byte for byte, no gap, no overlap, no resynchronisation — on
    success their concatenation is the whole input, on error it is the prefix read so far. -/
theorem records_tile_input (input : List UInt8) (sched : List Nat) :
    (((records input sched).2 = none → (records input sched).1.flatten = input) ∧
     (records input sched).1.flatten <+: input) := by
  rw [records_parse]
  exact (parse_tile _ input).symm

/-- every returned record starts with the version line and ends with CRLF CRLF. -/
theorem record_shape (input : List UInt8) (sched : List Nat) :
    ∀ r ∈ (records input sched).1, str "WARC/1.0" <+: r ∧ [13, 10, 13, 10] <:+ r := by
  rw [records_parse]
  exact parse_shape _ input

private theorem mkRecord_eq (hs : List (List UInt8)) (body : List UInt8) :
    mkRecord hs body =
      mkH (str "WARC/1.0") (hs.flatMap (· ++ [13, 10])) keyU (natStr body.length) ++ body ++
        [13, 10, 13, 10] := by
  unfold mkRecord mkH crlf
  rw [show str "Content-Length: " = keyU ++ [32] from strU]
  simp only [List.append_assoc, List.cons_append, List.nil_append]

private theorem passes (hs : List (List UInt8)) (h : ∀ hd ∈ hs, OkHeader hd) :
    Passes (hs.flatMap (· ++ [13, 10])) :=
  passes_lines hs fun hd hm =>
    have ⟨h1, _, h2, h3⟩ := h hd hm
    ⟨h1, h2, h3⟩

private theorem readSpec_mkRecord (hs : List (List UInt8)) (body : List UInt8)
    (h : ∀ hd ∈ hs, OkHeader hd) (hb : body.length < 2 ^ 63) :
    readSpec (str "WARC/1.0") (mkRecord hs body) = .record (mkRecord hs body) [] := by
  rw [mkRecord_eq]
  exact readSpec_mk body ver_lf (passes hs h) keyU_isKey (natStr_dec _) (by omega)

/-- A stream of well-formed records (bodies of any bytes, below the 2^63-byte limit at which strtoll
    saturates — see `read_exact_false`) is read back exactly, for every fragmentation. -/
theorem read_exact (recs : List (List (List UInt8) × List UInt8)) (sched : List Nat)
    (h : ∀ r ∈ recs, ∀ hd ∈ r.1, OkHeader hd) (hb : ∀ r ∈ recs, r.2.length < 2 ^ 63) :
    records (recs.flatMap (fun r => mkRecord r.1 r.2)) sched = (recs.map (fun r => mkRecord r.1 r.2), none) := by
  rw [records_parse]
  exact parse_concat _ recs fun r hr => readSpec_mkRecord r.1 r.2 (h r hr) (hb r hr)

/-- `read_exact` without `hb` is false: a body of 2^63 bytes. -/
theorem read_exact_false :
    ¬ (∀ (recs : List (List (List UInt8) × List UInt8)) (sched : List Nat)
        (_ : ∀ r ∈ recs, ∀ hd ∈ r.1, OkHeader hd),
        records (recs.flatMap (fun r => mkRecord r.1 r.2)) sched = (recs.map (fun r => mkRecord r.1 r.2), none)) := by
  intro H
  obtain ⟨body, hb⟩ : ∃ body : List UInt8, body.length = 2 ^ 63 := ⟨List.replicate _ 0, List.length_replicate⟩
  have h1 := H [([], body)] [] (by simp)
  simp only [List.flatMap_singleton, List.map_cons, List.map_nil] at h1
  rw [records_parse, parse_eq] at h1
  split at h1
  · cases h1
  · cases h1
  · rename_i r R' hr
    -- the reader takes the saturated length 2^63 - 1 for the body's
    rw [(List.cons.inj (Prod.mk.inj h1).1).1, mkRecord_eq] at hr
    exact readSpec_mk_short body R' ver_lf passes_nil keyU_isKey (natStr_dec _) (by omega) hr

/-- Truncation anywhere inside a record (body below 2^63 bytes) is an error, never a shorter success. -/
theorem truncation_is_error (hs : List (List UInt8)) (body : List UInt8) (h : ∀ hd ∈ hs, OkHeader hd)
    (hb : body.length < 2 ^ 63)
    (k : Nat) (hk0 : 0 < k) (hk : k < (mkRecord hs body).length) (sched : List Nat) :
    (records ((mkRecord hs body).take k) sched).2 ≠ none := by
  obtain ⟨e, he⟩ := readSpec_prefix_error (readSpec_mkRecord hs body h hb) hk0 hk
  rw [rejected he]
  nofun

/-- `truncation_is_error` without `hb` is false: a body of 2^63+3 bytes whose bytes 2^63-1 … 2^63+2 are
    CR LF CR LF, cut just before the real terminator, is accepted as a (shorter) record. -/
theorem truncation_is_error_false :
    ¬ (∀ (hs : List (List UInt8)) (body : List UInt8) (_ : ∀ hd ∈ hs, OkHeader hd)
        (k : Nat) (_ : 0 < k) (_ : k < (mkRecord hs body).length) (sched : List Nat),
        (records ((mkRecord hs body).take k) sched).2 ≠ none) := by
  intro H
  obtain ⟨x, hx⟩ : ∃ x : List UInt8, x.length = 2 ^ 63 - 1 := ⟨List.replicate _ 0, List.length_replicate⟩
  -- the cut record `M`: the header announces 2^63 + 3 bytes, the reader takes 2^63 - 1
  have hM := readSpec_mk (n := (x ++ [13, 10, 13, 10]).length) x ver_lf passes_nil keyU_isKey
    (natStr_dec _) (by rw [List.length_append, hx]; decide)
  generalize hMd : mkH _ _ _ _ ++ x ++ _ = M at hM
  have hrec : mkRecord [] (x ++ [13, 10, 13, 10]) = M ++ [13, 10, 13, 10] := by
    rw [mkRecord_eq, ← hMd, List.append_assoc _ x]
    rfl
  apply H [] (x ++ [13, 10, 13, 10]) nofun M.length (readSpec_record_split hM).2 (by rw [hrec]; simp) []
  rw [hrec, List.take_left, records_parse, parse_eq, hM]
  show (parse _ []).2 = none
  rw [parse_eq]
  rfl

/-- A negative Content-Length is rejected (it used to be accepted and the stream resynchronised). -/
theorem negative_length_rejected (n : Nat) (hn : 0 < n) (rest : List UInt8) (sched : List Nat) :
    (records (str "WARC/1.0" ++ crlf ++ str "Content-Length: -" ++ natStr n ++ crlf ++ crlf ++ rest) sched) =
      ([], some .lengthParse) := by
  apply rejected
  unfold crlf
  rw [show str "Content-Length: -" = _ from strNeg]
  simpa only [List.append_assoc, List.cons_append, List.nil_append] using
    readSpec_negative (13 :: 10 :: rest) ver_lf passes_nil keyU_isKey (natStr_dec n) hn

/-- A missing Content-Length is an error. -/
theorem missing_length_rejected (hs : List (List UInt8)) (h : ∀ hd ∈ hs, OkHeader hd) (rest : List UInt8) (sched : List Nat) :
    (records (str "WARC/1.0" ++ crlf ++ hs.flatMap (· ++ crlf) ++ crlf ++ rest) sched) = ([], some .noLength) := by
  apply rejected
  unfold crlf
  simpa only [List.append_assoc, List.cons_append, List.nil_append] using
    readSpec_missing rest ver_lf (passes hs h)

/-- A second Content-Length header (here spelt in lower case) is an error. -/
theorem duplicate_length_rejected (a b : Nat) (rest : List UInt8) (sched : List Nat) :
    (records (str "WARC/1.0" ++ crlf ++ str "Content-Length: " ++ natStr a ++ crlf ++ str "content-length: " ++ natStr b ++ crlf ++ rest) sched) =
      ([], some .twoLengths) := by
  apply rejected
  unfold crlf
  rw [show str "Content-Length: " = _ from strU, show str "content-length: " = _ from strL]
  simpa only [List.append_assoc, List.cons_append, List.nil_append] using
    readSpec_duplicate rest ver_lf passes_nil passes_nil keyU_isKey keyL_isKey (natStr_dec a)
      (natStr_dec b)

/-- A missing version line is an error. -/
theorem missing_version_rejected (line rest : List UInt8) (h1 : (10 : UInt8) ∉ line) (h2 : line ≠ str "WARC/1.0")
    (h3 : line ≠ str "WARC/1.0" ++ [13]) (sched : List Nat) :
    (records (line ++ [10] ++ rest) sched) = ([], some .badVersion) := by
  rw [List.append_assoc]
  exact rejected (readSpec_badVersion line rest h1 h2 h3) sched

-- non-vacuity
example : (records (mkRecord [str "WARC-Type: x"] (str "hello") ++ mkRecord [] []) [1, 2, 3, 4, 5, 1, 1, 1]).1.length = 2 := by
  decide +kernel
example : OkHeader (str "WARC-Type: x") := by unfold OkHeader; decide +kernel

end PV.Props.C17
