import PV.Model.Flatten
import PV.Spec.Flatten
import PV.Gen.Flatten
import PV.Lemmas.Flatten
/-
C19 — process_unicode applies the requested transforms to every line, each char once.
-/
namespace PV.Props.C19
open PV.Flatten

def Scalar (c : Nat) : Prop := c < 0xD800 ∨ (0xE000 ≤ c ∧ c ≤ 0x10FFFF)

/-- For every combination of flags and every line position, the printed line is the input line
    with exactly the requested transforms applied in order (lowercasing, flatten, NFKC) — the
    ping-pong buffers never leak the previous line or an untransformed buffer. -/
theorem pipeline_per_line (fl : Flags) (lower nfkc : List Nat → List Nat) (rules : List Start)
    (isSpace : Nat → Bool) (lines : List (List Nat)) :
    processUnicode fl lower nfkc rules isSpace lines =
      lines.map (PV.Spec.Flatten.transform fl.lower fl.flatten fl.normalize lower (apply rules isSpace) nfkc) :=
  PV.Lemmas.Flatten.mainLoop_eq rules isSpace fl lower nfkc lines _

/-- with no flag, text passes through unchanged. -/
theorem no_flag_identity (lower nfkc : List Nat → List Nat) (rules : List Start) (isSpace : Nat → Bool)
    (lines : List (List Nat)) : processUnicode ⟨false, false, false⟩ lower nfkc rules isSpace lines = lines := by
  rw [pipeline_per_line]
  exact List.map_id'' (PV.Lemmas.Flatten.transform_none lower _ nfkc) lines

/-- Flatten::Apply on the UTF-16 text of any sequence of scalar values equals the code-point
    level specification: leftmost, multi-character alternatives before the single-character one,
    else copy — every code point, including supplementary-plane ones, is emitted exactly once. -/
theorem apply_eq_spec (rules : List Start) (hb : PV.Spec.Flatten.bmpOnly rules = true) (isSpace : Nat → Bool)
    (cps : List Nat) (hs : ∀ c ∈ cps, Scalar c) :
    apply rules isSpace (cps.flatMap encode16) = PV.Spec.Flatten.flatten rules isSpace cps :=
  -- `hs` is taken at `PV.Spec.Utf8.Scalar`, which has the body of `Scalar` above
  PV.Lemmas.Flatten.applyLoop_eq rules isSpace hb _ _ _ 0 cps [] hs ⟨Nat.zero_le _, rfl⟩
    (Nat.lt_succ_self _) (Nat.le_succ _)

/-- characters no rule targets pass through unchanged. -/
theorem no_rule_passthrough (rules : List Start) (hb : PV.Spec.Flatten.bmpOnly rules = true) (isSpace : Nat → Bool)
    (cps : List Nat) (hs : ∀ c ∈ cps, Scalar c) (hn : ∀ c ∈ cps, ∀ st ∈ rules, st.c ≠ c) :
    apply rules isSpace (cps.flatMap encode16) = cps.flatMap encode16 :=
  (apply_eq_spec rules hb isSpace cps hs).trans
    (PV.Lemmas.Flatten.flattenSpec_no_rule rules isSpace _ cps (Nat.le_succ _) hn)

/-- "the listed punctuation substitutions for the language": the table the running code has BUILT for each of the five languages
    (dumped from `LookupFlatten`) is exactly the table that the rule arrays in the source text give when each array goes to the
    languages it is listed for (general: all; quotes: en, de, es; English right-boundary and digit-brace rules: en; French
    guillemets: fr) — nothing more, nothing less, in the same order. -/
theorem generated_tables_are_the_listed_ones : PV.Gen.flattenLangs = PV.Gen.flattenListedLangs := by
  decide +kernel

/-- the generated tables of all five languages satisfy the BMP hypothesis. -/
theorem generated_tables_bmp : ∀ lt ∈ PV.Gen.flattenLangs, PV.Spec.Flatten.bmpOnly lt.2 = true := by
  decide +kernel

-- non-vacuity: x 😀 y through the English table; `' s` at a right boundary; ``…`` quotes
example : apply PV.Gen.flatten_en (fun c => c == 32) [120, 0xD83D, 0xDE00, 121] = [120, 0xD83D, 0xDE00, 121] := by
  decide +kernel
example : apply PV.Gen.flatten_en (fun c => c == 32) [74, 39, 32, 115] = [74, 39, 115] := by decide +kernel
example : apply PV.Gen.flatten_en (fun c => c == 32) [96, 96, 97, 96] = [34, 97, 39] := by decide +kernel

end PV.Props.C19
