import PV.Model.Tools
import PV.Model.Cleaning
import PV.Lemmas.Cleaning
import PV.Spec.FirstOcc
import PV.Spec.Utf8
import PV.Lemmas.Tools
import PV.Lemmas.Utf8
/-
C18 — line filters keep or drop each line by its own content only.
(simple_cleaning's per-field predicate, with ICU's classification and the float threshold tests as parameters,
is PV.Model.Cleaning; its theorems are in the last section.)
-/
namespace PV.Props.C18
open PV.Tools PV.Spec.FirstOcc

/-! #### remove_long_lines -/
theorem long_lines_sublist (limit : Nat) (ls : List Line) : (removeLongLines limit ls).Sublist ls :=
  List.filter_sublist

/-- thresholds are exact: exactly LIMIT bytes is kept, LIMIT+1 is dropped. -/
theorem long_lines_limit_exact (limit : Nat) (ls : List Line) (l : Line) :
    l ∈ removeLongLines limit ls ↔ (l ∈ ls ∧ l.length ≤ limit) :=
  List.mem_filter.trans (and_congr_right fun _ => decide_eq_true_iff)

theorem long_lines_compositional (limit : Nat) (a b : List Line) :
    removeLongLines limit (a ++ b) = removeLongLines limit a ++ removeLongLines limit b :=
  List.filter_append ..

/-! #### remove_invalid_utf8 -/
theorem invalid_utf8_sublist (ls : List Line) : (removeInvalidUtf8 ls).Sublist ls :=
  List.filter_sublist

theorem invalid_utf8_keeps_wellformed (ls : List Line) (l : Line) :
    l ∈ removeInvalidUtf8 ls ↔ (l ∈ ls ∧ PV.Spec.Utf8.WellFormed l) :=
  List.mem_filter.trans (and_congr_right fun _ => PV.Lemmas.Tools.isUTF8_iff l)

theorem invalid_utf8_compositional (a b : List Line) :
    removeInvalidUtf8 (a ++ b) = removeInvalidUtf8 a ++ removeInvalidUtf8 b :=
  List.filter_append ..

/-! #### remove_invalid_utf8_base64 (one output line per input line) -/
theorem b64_utf8_compositional (a b : List Line) :
    removeInvalidUtf8Base64 (a ++ b) =
      (match removeInvalidUtf8Base64 a, removeInvalidUtf8Base64 b with
       | some x, some y => some (x ++ y)
       | _, _ => none) := by
  induction a with
  | nil =>
    rw [List.nil_append, PV.Lemmas.Tools.removeInvalidUtf8Base64_nil]
    cases removeInvalidUtf8Base64 b <;> rfl
  | cons l a ih =>
    rw [List.cons_append, PV.Lemmas.Tools.removeInvalidUtf8Base64_cons, PV.Lemmas.Tools.removeInvalidUtf8Base64_cons, ih]
    cases PV.Base64.decode l <;> cases removeInvalidUtf8Base64 a <;>
      cases removeInvalidUtf8Base64 b <;> rfl

theorem b64_utf8_linewise (ls out : List Line) (h : removeInvalidUtf8Base64 ls = some out) :
    out.length = ls.length ∧ ∀ i (hi : i < ls.length) (ho : i < out.length),
      out[i] = ls[i] ∨ out[i] = PV.Base64.encode [] := by
  induction ls generalizing out with
  | nil =>
    cases h
    exact ⟨rfl, fun i hi => nomatch hi⟩
  | cons l ls ih =>
    rw [PV.Lemmas.Tools.removeInvalidUtf8Base64_cons] at h
    match hd : PV.Base64.decode l, hr : removeInvalidUtf8Base64 ls, h with
    | .ok d, some rest, h =>
      cases h
      obtain ⟨hlen, hidx⟩ := ih rest hr
      refine ⟨congrArg (· + 1) hlen, fun i hi ho => ?_⟩
      cases i with
      | zero =>
        split
        · exact .inl rfl
        · exact .inr rfl
      | succ i => exact hidx i (Nat.lt_of_succ_lt_succ hi) (Nat.lt_of_succ_lt_succ ho)

/-! #### subtract_lines -/
/-- removes every copy of every subtrahend line (key) and nothing else. -/
theorem subtract_spec (key : Line → Nat) (sub ls : List Line)
    (h0 : ∀ l ∈ sub ++ ls, key l ≠ 0) :
    subtractLines key sub ls = some (ls.filter (fun l => decide (key l ∉ sub.map key))) := by
  obtain ⟨t, hl, h⟩ := PV.Lemmas.Tools.loadSet_spec key sub PV.Lemmas.Tools.seen_init
    fun l hl => h0 l (List.mem_append_left _ hl)
  rw [subtractLines, hl]
  exact PV.Lemmas.Tools.subtractLoop_spec key ls (h.congr fun k => by rw [List.append_nil, List.mem_reverse])
    fun l hl => h0 l (List.mem_append_right _ hl)

/-! #### commoncrawl_dedupe -/
/-- the kept lines: strip spaces, drop delimiter lines, drop keys seen before (in the removal
    file or earlier in the input), drop ill-formed UTF-8 (which still counts as seen). -/
def ccSpecGo (key : Line → Nat) : List Nat → List Line → List Line
  | _, [] => []
  | seen, l :: ls =>
    let l := stripSpaces l
    if ccMagic.isPrefixOf l then ccSpecGo key seen ls
    else if key l ∈ seen then ccSpecGo key seen ls
    else if PV.Utf8.isUTF8 l then l :: ccSpecGo key (key l :: seen) ls
    else ccSpecGo key (key l :: seen) ls

/-- a first-occurrence pass between two filters -/
private theorem ccSpecGo_eq (key : Line → Nat) : ∀ (seen : List Nat) (ls : List Line),
    ccSpecGo key seen ls = PV.Lemmas.Tools.ccSpec key seen ls
  | _, [] => rfl
  | seen, l :: ls => by
    simp only [ccSpecGo, PV.Lemmas.Tools.ccSpec_cons, ccSpecGo_eq key _ ls]

/-- through the real hash-table model; the keys of the removal file are the initial seen-set (newest first, as the
    loader leaves them: `ccSpecGo` asks `seen` for membership only, so the order means nothing). -/
theorem ccdedupe_spec (key : Line → Nat) (remove ls : List Line)
    (h0 : ∀ l ∈ remove ++ ls, key (stripSpaces l) ≠ 0) :
    commoncrawlDedupe key remove ls = some (ccSpecGo key ((remove.map (fun l => key (stripSpaces l))).reverse) ls) := by
  obtain ⟨t, hl, h⟩ := PV.Lemmas.Tools.loadSet_spec key (remove.map stripSpaces) PV.Lemmas.Tools.seen_init
    fun l hl => by
      obtain ⟨x, hx, rfl⟩ := List.mem_map.1 hl
      exact h0 x (List.mem_append_left _ hx)
  rw [List.map_map, List.append_nil] at h
  rw [ccSpecGo_eq, commoncrawlDedupe, hl]
  exact PV.Lemmas.Tools.ccLoop_spec key ls h fun l hl => h0 l (List.mem_append_right _ hl)

/-- commoncrawl_dedupe never emits an ill-formed line, and never the same key twice. -/
theorem ccdedupe_output_wellformed (key : Line → Nat) (seen : List Nat) (ls : List Line) :
    (∀ l ∈ ccSpecGo key seen ls, PV.Spec.Utf8.WellFormed l) ∧ ((ccSpecGo key seen ls).map key).Nodup := by
  rw [ccSpecGo_eq]
  exact ⟨fun l hl => (PV.Lemmas.Tools.isUTF8_iff l).1 (PV.Lemmas.Tools.mem_ccSpec key seen ls l hl).1,
    PV.Lemmas.Tools.ccSpec_nodup key seen ls⟩


/-! #### simple_cleaning (PV.Model.Cleaning; ICU classification and the float thresholds are parameters) -/
section Cleaning
open PV.Cleaning PV.Lemmas.Cleaning

/-- Full characterisation of one field's verdict: it is kept exactly when it is well-formed UTF-8 whose code
    points contain no C0 control other than tab / CR, all have a script, contain no run of `max run 2` equal
    non-space characters, number at least `--min-chars`, and pass the threshold tests on the counters. -/
theorem cleaning_keep_iff (p : Params) (bs : List UInt8) :
    keep p bs = true ↔ ∃ cs, PV.Utf8.decodeAll bs = some cs ∧ Accept p cs := by
  unfold keep
  rw [scan_eq]
  cases PV.Utf8.decodeAll bs with
  | none => simp
  | some cs =>
    have hiff : _ ↔ _ ∧ _ ∧ NoLongRun p cs := run_eq_some_iff p cs init (inv_init p)
    simp only [Option.bind_some, Option.some.injEq, exists_eq_left', Accept]
    cases hrun : run p init cs with
    | none =>
      exact ⟨nofun, fun ⟨h1, h2, h3, _⟩ => let ⟨_, hs⟩ := hiff.mpr ⟨h1, h2, h3⟩; nomatch hrun.symm.trans hs⟩
    | some s =>
      obtain ⟨h1, h2, h3⟩ := hiff.mp ⟨s, hrun⟩
      obtain ⟨c1, c2, c3, c4⟩ := run_counters p cs init s hrun
      rw [Bool.and_eq_true, decide_eq_true_eq, c2, c1, c3, c4]
      simp only [init, List.append_nil, List.reverse_reverse, List.length_nil, Nat.zero_add]
      exact ⟨fun h => ⟨h1, h2, h3, h⟩, fun ⟨_, _, _, h⟩ => h⟩

/-- simple_cleaning never passes ill-formed UTF-8 (whatever the parameters and thresholds). -/
theorem cleaning_rejects_illformed (p : Params) (bs : List UInt8) (h : keep p bs = true) :
    PV.Spec.Utf8.WellFormed bs := by
  obtain ⟨cs, hd, _⟩ := (cleaning_keep_iff p bs).mp h
  exact ⟨cs, (PV.Lemmas.Utf8.decodeAll_iff bs cs).mp hd⟩

/-- ... nor a C0 control character other than tab and carriage return. -/
theorem cleaning_rejects_controls (p : Params) (bs : List UInt8) (cs : List Nat)
    (h : keep p bs = true) (hd : PV.Utf8.decodeAll bs = some cs) :
    ∀ c ∈ cs, ¬ (c < 32 ∧ c ≠ 9 ∧ c ≠ 13) := by
  obtain ⟨cs', hd', hctrl, _⟩ := (cleaning_keep_iff p bs).mp h
  rw [hd] at hd'; cases hd'
  intro c hc ⟨h1, h2, h3⟩
  have := hctrl c hc
  simp [isCtrl, h1, h2, h3] at this

/-- ... nor a field with fewer than `--min-chars` code points, nor one with a run of `--character-run` (at least 2)
    equal non-space characters. -/
theorem cleaning_min_chars_and_runs (p : Params) (bs : List UInt8) (cs : List Nat)
    (h : keep p bs = true) (hd : PV.Utf8.decodeAll bs = some cs) :
    p.minChars ≤ cs.length ∧ NoLongRun p cs := by
  obtain ⟨cs', hd', _, _, hrun, hmin, _⟩ := (cleaning_keep_iff p bs).mp h
  rw [hd] at hd'; cases hd'
  exact ⟨hmin, hrun⟩

/-- A line is kept exactly when every selected field is kept; the verdict is a function of the line alone, so
    the tool's output is a sublist of its input and filtering distributes over concatenation. -/
theorem cleaning_linewise (p : Params) (ranges : List PV.Fields.FieldRange) (delim : UInt8) (a b : List (List UInt8)) :
    filter p ranges delim (a ++ b) = filter p ranges delim a ++ filter p ranges delim b ∧
    (filter p ranges delim a).Sublist a ∧
    (∀ l, l ∈ filter p ranges delim a ↔ l ∈ a ∧ ∀ f ∈ PV.Fields.individualFields l ranges delim, keep p f = true) := by
  refine ⟨List.filter_append .., List.filter_sublist, ?_⟩
  intro l
  unfold filter keepLine
  rw [List.mem_filter, List.all_eq_true]

/-- non-vacuity: with a Latin/Common classification, --min-chars 3 and --character-run 3, "ab, c" (5 code points incl. a
    comma and a space) is kept, and so is "    a" (spaces may run); "aaab" is dropped for its run, "a\x01bc" for its control
    character, "\xffabc" for being ill-formed and "ab" for its length. -/
def exParams : Params :=
  { minChars := 3, run := 3, scriptOf := fun c => some (if c = 32 ∨ c = 44 then 0 else 25),
    isPunct := fun c => c == 44, isSpace := fun c => c == 32, thresholds := fun _ _ _ => true }
example : keep exParams [97, 98, 44, 32, 99] = true := by decide
example : keep exParams [97, 97, 97, 98] = false := by decide
example : keep exParams [32, 32, 32, 32, 97] = true := by decide
example : keep exParams [97, 1, 98, 99] = false := by decide
example : keep exParams [255, 97, 98, 99] = false := by decide
example : keep exParams [97, 98] = false := by decide

end Cleaning

-- non-vacuity
example : removeLongLines 2 [[1, 2], [1, 2, 3], []] = [[1, 2], []] := by decide
example : stripSpaces [32, 9, 97, 32, 98, 13, 32] = [97, 32, 98] := by decide

end PV.Props.C18
