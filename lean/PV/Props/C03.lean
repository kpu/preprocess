import PV.Lemmas.BufStream
import PV.Lemmas.Io
import PV.Props.C02
/-
C03 — partial reads/writes and EINTR never change a tool's output.
The input side is C02's `read_mode_records` (∀ schedule of read() return sizes the records are
the same); here are the loops in util/file.cc.  The tool-level statement is decided by fault
enumeration on the real binaries (see tools/props/c03.py).
-/
namespace PV.Props.C03
open PV.Io

/-- a script with no hard error: only short counts and EINTR. -/
def Benign (sched : List Int) : Prop := ∀ o ∈ sched, 0 ≤ o

/-- WriteOrThrow hands exactly the data to the OS, in order, whatever pattern of short writes
    and EINTR occurs, and terminates. -/
theorem writeAll_delivers (data : List UInt8) (sched : List Int) (h : Benign sched) :
    ∃ log, writeOrThrow data sched = .ok data log := by
  rcases PV.Lemmas.Io.writeAll_spec _ data sched [] [] (Nat.lt_succ_self _) with hl | ⟨_, _, _, _, o, ho, hn⟩
  · exact hl
  · exact absurd (h o ho) (Int.not_le.mpr hn)

/-- every request the loop issues is for the bytes not yet written (so nothing is sent twice). -/
theorem writeAll_never_overwrites (data : List UInt8) (sched : List Int) (done : List UInt8) (log : List Nat)
    (h : writeOrThrow data sched = .err done log) : done <+: data := by
  rcases PV.Lemmas.Io.writeAll_spec _ data sched [] [] (Nat.lt_succ_self _) with ⟨_, hl⟩ | ⟨d, l, e, hp, _⟩
  · exact WRes.noConfusion (hl.symm.trans h)
  · obtain rfl : d = done := (WRes.err.inj (e.symm.trans h)).1
    exact hp

/-- ReadOrEOF returns the first `amount` bytes of the source (or all of it if shorter),
    independent of the fragmentation. -/
theorem readOrEOF_total (amount : Nat) (src : List UInt8) (sched : List Int) (h : Benign sched) :
    ∃ log, readOrEOF amount src sched = .ok (src.take amount) log :=
  (PV.Lemmas.Io.readLoop_spec false _ amount src sched [] [] h (Nat.lt_succ_self _)).1 (.inl rfl)

/-- ReadOrThrow returns exactly `amount` bytes or reports end of file, never a short success. -/
theorem readOrThrow_exact (amount : Nat) (src : List UInt8) (sched : List Int) (h : Benign sched) :
    (amount ≤ src.length → ∃ log, readOrThrow amount src sched = .ok (src.take amount) log) ∧
    (src.length < amount → ∃ log, readOrThrow amount src sched = .eof log) := by
  have hs := PV.Lemmas.Io.readLoop_spec true _ amount src sched [] [] h (Nat.lt_succ_self _)
  exact ⟨fun hle => hs.1 (.inr hle), hs.2 rfl⟩

/-- the records a tool processes do not depend on how read() fragments the input
    (restatement of C02 for two arbitrary schedules). -/
theorem records_schedule_independent (delim : UInt8) (stripCr : Bool) (cap0 : Nat) (hcap : 0 < cap0)
    (src : List UInt8) (s1 s2 : List Nat) :
    PV.Reader.recordsRead delim stripCr cap0 src s1 = PV.Reader.recordsRead delim stripCr cap0 src s2 := by
  rw [PV.Props.C02.read_mode_records delim stripCr cap0 hcap src s1,
      PV.Props.C02.read_mode_records delim stripCr cap0 hcap src s2]

-- non-vacuity
example : writeOrThrow [1, 2, 3, 4, 5] [1, 0, 2] = .ok [1, 2, 3, 4, 5] [5, 4, 4, 2] := by decide +kernel
example : readOrEOF 10 [1, 2, 3, 4, 5] [2, 0, 1] = .ok [1, 2, 3, 4, 5] [10, 8, 8, 7, 5] := by decide +kernel
example : Benign [1, 0, 2] := by unfold Benign; decide

/-! #### BufferedStream (util/buffered_stream.hh), the layer above WriteOrThrow on every tool's output -/
section BufStream
open PV.BufStream

/-- at every moment: what the writer has received followed by what sits in the buffer is exactly the concatenation
    of the bytes of all operations so far, in order; and the buffer never exceeds its capacity. -/
theorem bufstream_invariant (cap : Nat) (ops : List Op) (hw : WF cap ops) :
    (run cap ops).chunks.flatten ++ (run cap ops).buf = (ops.map Op.bytes).flatten ∧ (run cap ops).buf.length ≤ cap := by
  have h := PV.Lemmas.BufStream.run_inv hw
  exact ⟨h.bytes, h.fits⟩

/-- after the destructor the writer has received exactly the bytes of all operations, in order, whatever the sizes
    (smaller than, equal to, larger than the buffer) and wherever numbers were formatted in place. -/
theorem bufstream_delivers (cap : Nat) (ops : List Op) (hw : WF cap ops) :
    (finish cap ops).chunks.flatten = (ops.map Op.bytes).flatten ∧ (finish cap ops).buf = [] := by
  obtain ⟨⟨h, _⟩, hb⟩ := PV.Lemmas.BufStream.spill_inv (PV.Lemmas.BufStream.run_inv hw)
  rw [hb, List.append_nil] at h
  exact ⟨h, hb⟩

/-- a flush leaves nothing behind, and the writer is never handed an empty chunk. -/
theorem bufstream_flush_and_chunks (cap : Nat) (ops : List Op) (hw : WF cap ops) :
    (step cap (run cap ops) .flush).buf = [] ∧ ∀ c ∈ (run cap ops).chunks, c ≠ [] := by
  have h := PV.Lemmas.BufStream.run_inv hw
  exact ⟨(PV.Lemmas.BufStream.spill_inv h).2, h.chunks_ne⟩

-- non-vacuity (cap 4): "abc", a 2-byte number with Ensure(3), then a 6-byte write that bypasses the buffer
example : (finish 4 [.write [97, 98, 99], .put 3 [49, 50], .write [1, 2, 3, 4, 5, 6]]).chunks = [[97, 98, 99], [49, 50], [1, 2, 3, 4, 5, 6]] := by decide +kernel
example : WF 4 [.write [97, 98, 99], .put 3 [49, 50], .write [1, 2, 3, 4, 5, 6]] := by
  intro o ho
  simp only [List.mem_cons, List.not_mem_nil, or_false] at ho
  rcases ho with rfl | rfl | rfl <;> simp

end BufStream

end PV.Props.C03
