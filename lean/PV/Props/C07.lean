import PV.Model.Fold
import PV.Model.Utf8
import PV.Lemmas.Fold
/-
C07 — foldfilter splits within the width and reassembles losslessly.
-/
namespace PV.Props.C07
open PV.Fold PV.Utf8 PV.Lemmas.Fold

/-- valid UTF-8 input line -/
def Valid (line : List UInt8) : Prop := isUTF8 line = true

private theorem Valid.wf {line : List UInt8} (hv : Valid line) : WF line := (PV.Lemmas.Utf8.isUTF8_iff line).mp hv

private theorem pieces {line o ps} (h : wrapLines line o = some ps) (hv : Valid line) (hw : 1 ≤ o.width) :
    (∀ it ∈ ps, ItemOK o it) ∧ ps ≠ [] ∧ (line ≠ [] → ∀ it ∈ ps, it.1 ≠ []) := by
  obtain ⟨_, h', _, r⟩ := wrapLines_spec line o hv.wf hw
  cases h.symm.trans h'
  exact r

/-- For valid UTF-8 and any width ≥ 1, delimiter list and -s setting, `wrap_lines` terminates
    normally (no decode error, no divergence) and the pieces together with the withheld
    delimiter runs concatenate to exactly the original line. -/
theorem wrap_lossless (line : List UInt8) (o : Opts) (hv : Valid line) (hw : 1 ≤ o.width) :
    ∃ ps, wrapLines line o = some ps ∧ ps.flatMap (fun (p, d) => p ++ d) = line := by
  obtain ⟨ps, h, hcat, _⟩ := wrapLines_spec line o hv.wf hw
  exact ⟨ps, h, hcat⟩

/-- Every piece handed to the child is at most WIDTH bytes long, a single code point longer
    than WIDTH excepted. -/
theorem pieces_within_width (line : List UInt8) (o : Opts) (hv : Valid line) (hw : 1 ≤ o.width)
    (ps : List (List UInt8 × List UInt8)) (h : wrapLines line o = some ps) :
    ∀ pd ∈ ps, pd.1.length ≤ o.width ∨ ∃ c, decodeAll pd.1 = some [c] :=
  fun pd hpd => ((pieces h hv hw).1 pd hpd).1

/-- No piece and no withheld run splits a code point. -/
theorem pieces_on_boundaries (line : List UInt8) (o : Opts) (hv : Valid line) (hw : 1 ≤ o.width)
    (ps : List (List UInt8 × List UInt8)) (h : wrapLines line o = some ps) :
    ∀ pd ∈ ps, isUTF8 pd.1 = true ∧ isUTF8 pd.2 = true := by
  intro pd hpd
  obtain ⟨_, h1, _, h2⟩ := (pieces h hv hw).1 pd hpd
  exact ⟨(PV.Lemmas.Utf8.isUTF8_iff _).mpr h1, (PV.Lemmas.Utf8.isUTF8_iff _).mpr (DelimRun_WF h2)⟩

/-- The runs withheld under -s consist of delimiter characters only; without -s nothing is
    withheld. -/
theorem withheld_only_delims (line : List UInt8) (o : Opts) (hv : Valid line) (hw : 1 ≤ o.width)
    (ps : List (List UInt8 × List UInt8)) (h : wrapLines line o = some ps) :
    ∀ pd ∈ ps, (o.keep = true → pd.2 = []) ∧
      ∃ cs, decodeAll pd.2 = some cs ∧ ∀ c ∈ cs, c ∈ o.delims := by
  intro pd hpd
  obtain ⟨_, _, h1, h2⟩ := (pieces h hv hw).1 pd hpd
  exact ⟨h1, DelimRun_decodeAll h2⟩

/-- There is always at least one piece (so the record count sent to the reader thread is never
    the end-of-input marker 0), and only the empty line yields an empty piece. -/
theorem pieces_nonempty (line : List UInt8) (o : Opts) (hv : Valid line) (hw : 1 ≤ o.width)
    (ps : List (List UInt8 × List UInt8)) (h : wrapLines line o = some ps) :
    ps ≠ [] ∧ (line ≠ [] → ∀ pd ∈ ps, pd.1 ≠ []) :=
  (pieces h hv hw).2

/-- An identity child reproduces the input exactly, line for line (this uses that the reader
    thread does not strip carriage returns: `Gen.foldfilterCollectStripCr = false`). -/
theorem identity_child_roundtrip (lines : List (List UInt8)) (o : Opts) (hw : 1 ≤ o.width)
    (hv : ∀ l ∈ lines, Valid l) : foldfilter id o lines = some lines := by
  obtain ⟨pss, hl, h⟩ := foldfilter_spec hw lines fun l hl => (hv l hl).wf
  rw [h, hl]

/-- Input and output line counts always match, whatever the child answers. -/
theorem line_counts_match (child : List UInt8 → List UInt8) (lines : List (List UInt8)) (o : Opts)
    (hw : 1 ≤ o.width) (hv : ∀ l ∈ lines, Valid l) :
    ∃ out, foldfilter child o lines = some out ∧ out.length = lines.length := by
  obtain ⟨pss, hl, h⟩ := foldfilter_spec hw lines fun l hl => (hv l hl).wf
  exact ⟨_, h child, (List.length_map _).trans ((List.length_map _).symm.trans (congrArg List.length hl))⟩

-- non-vacuity: the two boundary cases the property singles out
example : wrapLines [97, 97, 97, 97, 0xE2, 0x82, 0xAC] ⟨5, true, [58, 44, 32, 45, 46, 47]⟩ =
    some [([97, 97, 97, 97], []), ([0xE2, 0x82, 0xAC], [])] := by decide +kernel
example : wrapLines [97, 32, 32, 32, 98, 99, 100] ⟨3, false, [32]⟩ =
    some [([97], [32, 32, 32]), ([98, 99, 100], [])] := by decide +kernel
example : Valid [97, 0xE2, 0x82, 0xAC] := by unfold Valid; decide +kernel

end PV.Props.C07
