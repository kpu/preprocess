import PV.Model.Murmur
import PV.Spec.Murmur
import PV.Lemmas.Murmur
/-
C14 — line hashing is MurmurHash64A, identical across tools, runs and alignments.
(The model reads bytes through indices only, so alignment cannot enter; the implementation's
alignment independence is exercised by the correspondence run at all 8 start alignments.)
-/
namespace PV.Props.C14
open PV.Murmur PV.Spec.Murmur

/-- the constants in today's source are the reference ones, and the tool seeds are the
    documented ones (dedupe 1/1, shard 47849374332489).  cache's seed is not part of this property:
    its keys never leave the process (see PV.Props.C10.cache_empty_first_field_counts for what it must satisfy). -/
theorem constants_are_reference :
    PV.Gen.murmurM = 0xc6a4a7935bd1e995 ∧ PV.Gen.murmurR = 47 ∧
    PV.Gen.shardSeed = 47849374332489 ∧ PV.Gen.dedupeLineSeed = 1 ∧ PV.Gen.dedupeFieldSeed = 1 := by
  decide

/-- computing the hash reads no byte outside the string (every length, every tail 0–7). -/
theorem reads_in_bounds (bs : Array UInt8) (seed : UInt64) : (hash64A? bs seed).isSome = true :=
  PV.Lemmas.Murmur.hash64A?_isSome bs seed

/-- the hash equals reference MurmurHash64A for every byte string and seed. -/
theorem hash_eq_reference (bs : List UInt8) (seed : UInt64) : hash64A bs seed = murmurRef bs seed := by
  simp [hash64A, PV.Lemmas.Murmur.hash64A?_eq]

/-- hashing a selection of fields is the left fold of the reference function with the previous
    value as seed. -/
theorem field_key_is_fold (seed : UInt64) (pieces : List (List UInt8)) :
    hashPieces seed pieces = pieces.foldl (fun h p => murmurRef p h) seed := by
  simp only [hashPieces, hash_eq_reference]

/-- the case-model key used by train_case and apply_case is the documented nesting of the reference
    function (one definition serves both tools in the model; the two call sites are tied to it by
    running train_case's output through apply_case). -/
theorem case_key_is_reference (source lowered : List UInt8) :
    caseKey source lowered = murmurRef lowered (murmurRef source 0) := by
  unfold caseKey
  rw [hash_eq_reference, hash_eq_reference]

-- non-vacuity / known-answer: MurmurHash64A("hello world, this is", seed 1)
example : hash64A "hello world, this is".toUTF8.toList 1 = 13782079507294449509 := by decide +kernel

end PV.Props.C14
