import PV.Model.B64filter
import PV.Lemmas.B64filter
import PV.Lemmas.Records
/-
C08 — b64filter preserves document boundaries and content around the child.
-/
namespace PV.Props.C08
open PV.B64filter PV.Base64 PV.Spec.Records

/-- cut a list into consecutive segments of the given lengths. -/
def segments {α : Type} : List Nat → List α → List (List α)
  | [], _ => []
  | n :: ns, xs => xs.take n :: segments ns (xs.drop n)

/-- the record count sent to the reader is never 0, the end-of-input marker. -/
theorem line_cnt_pos (doc : List UInt8) : (describe doc).lines ≠ [] := by
  obtain ⟨ys, hl, -⟩ := PV.Lemmas.B64filter.describe_eq doc
  intro h
  have := PV.Lemmas.Records.splitRecords_lossless 10 ys
  rw [← hl, h] at this
  simp at this

/-- what the feeder sends for a document and what the reader rebuilds from the same lines is
    the document itself: empty documents, documents of newlines only, with or without a final
    newline, NUL bytes, CRs (uses `Gen.b64filterCollectStripCr = false`). -/
theorem describe_reassemble (doc : List UInt8) :
    reassemble ((describe doc).lines.map stripCr) (describe doc).trailing = doc := by
  obtain ⟨ys, hl, hd⟩ := PV.Lemmas.B64filter.describe_eq doc
  rw [List.map_congr_left fun r _ => PV.Lemmas.B64filter.stripCr_eq r, List.map_id',
    PV.Lemmas.B64filter.reassemble_eq _ _ ys (hl ▸ PV.Lemmas.Records.splitRecords_lossless 10 ys), ← hd]

/-- With an identity child every document is reproduced exactly: the output line for each
    input line is the canonical base64 of the same bytes (input may be padded or unpadded). -/
theorem identity_child_exact (input docs : List (List UInt8)) (h : decodeAllDocs input = some docs) :
    run id input = some (docs.map encode) := by
  unfold run
  rw [h]
  show collect (docs.map describe) ((docs.map describe).flatMap (·.lines)) = _
  clear h
  induction docs with
  | nil => rfl
  | cons d ds ih =>
    rw [List.map_cons, List.flatMap_cons, collect, if_neg (by simp), List.drop_left' rfl, ih, List.take_left' rfl,
      describe_reassemble, List.map_cons]

/-- in particular canonical input is reproduced byte for byte. -/
theorem identity_child_canonical (docs : List (List UInt8)) :
    run id (docs.map encode) = some (docs.map encode) :=
  identity_child_exact _ docs (PV.Lemmas.B64filter.decodeAllDocs_encoded docs)

/-- exactly one output line per input document, whatever the child. -/
theorem one_line_per_doc (child : List (List UInt8) → List (List UInt8)) (input out : List (List UInt8))
    (h : run child input = some out) : out.length = input.length := by
  unfold run at h
  split at h
  · cases h
  · next docs hd =>
    rw [PV.Lemmas.B64filter.collect_length _ _ _ h, List.length_map,
      PV.Lemmas.B64filter.decodeAllDocs_length _ _ hd]

/-- No shift: for every line-preserving child, document i's output is built from exactly the
    child's answers to document i's lines — the answer stream is cut at the documents' own
    line counts, so lines of different documents are never merged, split or moved. -/
theorem no_shift (child : List (List UInt8) → List (List UInt8))
    (hlen : ∀ ls, (child ls).length = ls.length)
    (input docs : List (List UInt8)) (h : decodeAllDocs input = some docs) :
    run child input = some
      (((docs.map describe).zip
          (segments ((docs.map describe).map (·.lines.length)) (child ((docs.map describe).flatMap (·.lines))))).map
        (fun (d, seg) => encode (reassemble (seg.map stripCr) d.trailing))) := by
  -- the reader takes each document's lines off the front of the answer stream, as `segments` does
  have key : ∀ (descs : List Desc) (xs : List (List UInt8)), xs.length = (descs.map (·.lines.length)).sum →
      collect descs xs = some ((descs.zip (segments (descs.map (·.lines.length)) xs)).map
        (fun (d, seg) => encode (reassemble (seg.map stripCr) d.trailing))) := by
    intro descs
    induction descs with
    | nil =>
      intro xs hx
      rw [List.eq_nil_of_length_eq_zero hx]
      rfl
    | cons d ds ih =>
      intro xs hx
      rw [List.map_cons, List.sum_cons] at hx
      rw [collect, if_neg (by omega), ih (xs.drop d.lines.length) (by rw [List.length_drop]; omega)]
      rfl
  unfold run
  rw [h]
  exact key _ _ (by rw [hlen, List.length_flatMap])

-- non-vacuity
example : describe [] = ⟨[[]], false⟩ := by decide
example : describe [10, 10] = ⟨[[], []], true⟩ := by decide
example : describe [97, 13, 10, 98] = ⟨[[97, 13], [98]], false⟩ := by decide
example : run id [[]] = some [[]] := by decide            -- the empty document

end PV.Props.C08
