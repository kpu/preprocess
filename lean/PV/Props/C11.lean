import PV.Model.Status
/-
C11 — I/O errors and child failures are never reported as success (status logic; the
enumeration over failing system calls and dying children is done on the real binaries).
-/
namespace PV.Props.C11
open PV.Status

/-- a child killed by any fatal signal makes the wrapper's observed status non-zero. -/
theorem signalled_child_nonzero : ∀ p ∈ PV.Gen.waitSignalled, processExit p.2 ≠ 0 := by
  decide

/-- when the child exits on its own the wrapper's status is exactly the child's exit code. -/
theorem exit_is_child_exit : ∀ p ∈ PV.Gen.waitExited, processExit p.2 = (p.1 : Int) := by
  decide

/-- success is observed only if every thread finished normally and the child exited 0
    (over all tabulated child endings). -/
theorem exit0_iff_child0_and_threads_ok (threadsOk : Bool) (c : ChildEnd) (e : ToolEnd)
    (h : wrapperEnd threadsOk c = some e) : observedSuccess e = true → (threadsOk = true ∧ c = .exited 0) := by
  intro hs
  cases threadsOk with
  | false =>
    cases h
    cases hs
  | true =>
    refine ⟨rfl, ?_⟩
    obtain ⟨r, hr, rfl⟩ := Option.map_eq_some_iff.mp h
    have h0 : processExit r = 0 := beq_iff_eq.mp hs
    cases c with
    | exited code =>
      obtain ⟨p, hp, rfl⟩ := Option.map_eq_some_iff.mp hr
      have hk := List.find?_some hp
      have := exit_is_child_exit p (List.mem_of_find?_eq_some hp)
      rw [h0] at this
      rw [← beq_iff_eq.mp hk, Int.natCast_eq_zero.mp this.symm]
    | signalled sig =>
      obtain ⟨p, hp, rfl⟩ := Option.map_eq_some_iff.mp hr
      exact absurd h0 (signalled_child_nonzero p (List.mem_of_find?_eq_some hp))

/-- an iostream tool that checks its output stream never reports success after a failed write. -/
theorem write_error_nonzero : observedSuccess (iostreamToolEnd true true) = false := by decide

-- non-vacuity
example : waitReturn (.signalled 9) ≠ none := by decide
example : wrapperEnd true (.exited 0) = some (.returned 0) := by decide

end PV.Props.C11
