import PV.Model.Format
import PV.Lemmas.Format
import PV.Model.Pool
import PV.Lemmas.Pool
/-
C20 — helper routines never write beyond the space they reserved (the number formatters used by
the output streams).  `PV.Gen.kBytes*` are ToStringBuf<T>::kBytes as the compiler sees them today.
The other C20 obligations proved elsewhere: probing never diverges / no table-full exception
(C13 history_refines), the reader and wrap_lines never diverge and index inside the buffer
(C02, C07 totality), Murmur reads in bounds (C14 reads_in_bounds), b64filter's record count is
never the end marker and back() is guarded (C08), shard count 0 is rejected (C06 check).
Second part: `util::Pool` (PV.Pool), the bump allocator that holds cache's answers and the strings of MutableVocab,
substitute and idf: for EVERY history of Allocate / Continue calls the allocations lie inside malloc'ed pages, never share a
byte, earlier ones never move, Continue's memcpy stays inside both pages and copies exactly the old bytes, and the shift that
sizes the next page cannot reach 64.  Tie: harness op pool.run (real Pool, pattern-filled allocations, ASan) vs pvdriver pool.run.
-/
namespace PV.Props.C20
open PV.Format

-- `k` is the number of decimal digits of the type's largest magnitude (2^15 and 2^16 have 5, 2^31 and 2^32 have 10,
-- 2^64 has 20 but 2^63 only 19); a signed type reserves one byte more, for the '-'.
theorem u16_fits (v : Nat) (h : v < 2 ^ 16) : (u32 v).2 ≤ PV.Gen.kBytesU16 :=
  PV.Lemmas.Format.u32_touched_le (k := 5) (by decide) (Nat.lt_trans h (by decide))
theorem i16_fits (v : Int) (h : -(2 ^ 15) ≤ v ∧ v < 2 ^ 15) : (i32 v).2 ≤ PV.Gen.kBytesI16 :=
  PV.Lemmas.Format.signed_touched_le u32 (PV.Lemmas.Format.u32_touched_le (k := 5) (by decide) (by omega))
theorem u32_fits (v : Nat) (h : v < 2 ^ 32) : (u32 v).2 ≤ PV.Gen.kBytesU32 :=
  PV.Lemmas.Format.u32_touched_le (k := 10) (by decide) (Nat.lt_trans h (by decide))
theorem i32_fits (v : Int) (h : -(2 ^ 31) ≤ v ∧ v < 2 ^ 31) : (i32 v).2 ≤ PV.Gen.kBytesI32 :=
  PV.Lemmas.Format.signed_touched_le u32 (PV.Lemmas.Format.u32_touched_le (k := 10) (by decide) (by omega))
theorem u64_fits (v : Nat) (h : v < 2 ^ 64) : (u64 v).2 ≤ PV.Gen.kBytesU64 :=
  PV.Lemmas.Format.u64_touched_le (k := 20) (by decide) (Nat.lt_trans h (by decide))
theorem i64_fits (v : Int) (h : -(2 ^ 63) ≤ v ∧ v < 2 ^ 63) : (i64 v).2 ≤ PV.Gen.kBytesI64 :=
  PV.Lemmas.Format.signed_touched_le u64 (PV.Lemmas.Format.u64_touched_le (k := 19) (by decide) (by omega))

/-- every double: at most 17 significant digits, decimal point in [-323, 309]. -/
theorem double_fits (neg : Bool) (len : Nat) (dp : Int) (hl : 1 ≤ len ∧ len ≤ 17) (hd : -323 ≤ dp ∧ dp ≤ 309) :
    floatTouched neg len dp ≤ PV.Gen.kBytesDouble :=
  have _ := hd  -- the bound holds for every `dp`
  Nat.le_trans (PV.Lemmas.Format.floatTouched_le neg len dp) (by show _ ≤ 26; omega)

/-- every float: at most 9 significant digits, decimal point in [-44, 39]. -/
theorem float_fits (neg : Bool) (len : Nat) (dp : Int) (hl : 1 ≤ len ∧ len ≤ 9) (hd : -44 ≤ dp ∧ dp ≤ 39) :
    floatTouched neg len dp ≤ PV.Gen.kBytesFloat :=
  have _ := hd  -- the bound holds for every `dp`
  Nat.le_trans (PV.Lemmas.Format.floatTouched_le neg len dp) (by show _ ≤ 26; omega)

theorem specials_fit (kind : String) (neg : Bool) :
    specialLen kind neg + 1 ≤ PV.Gen.kBytesDouble ∧ specialLen kind neg + 1 ≤ PV.Gen.kBytesFloat := by
  have h : specialLen kind neg + 1 ≤ 26 := Nat.le_trans (Nat.succ_le_succ (PV.Lemmas.Format.ite_le
    (fun _ => Nat.le_succ 3) fun _ => PV.Lemmas.Format.ite_le (fun _ => Nat.le_refl 4) fun _ => Nat.le_succ 3))
    (by decide)
  exact ⟨h, h⟩

/-- the per-type reservations never exceed what `Ensure` may be asked for. -/
theorem kBytes_le_max :
    PV.Gen.kBytesDouble ≤ PV.Gen.kToStringMaxBytes ∧ PV.Gen.kBytesFloat ≤ PV.Gen.kToStringMaxBytes ∧
    PV.Gen.kBytesU64 ≤ PV.Gen.kToStringMaxBytes ∧ PV.Gen.kBytesI64 ≤ PV.Gen.kToStringMaxBytes ∧
    PV.Gen.kBytesPtr ≤ PV.Gen.kToStringMaxBytes := by
  decide

-- non-vacuity: the longest double, -1.2345678901234567e-6 = "-0.0000012345678901234567"
example : floatTouched true 17 (-5) = 26 := by decide
example : (u64 18446744073709551615).2 = 20 := by decide
example : (i64 (-9223372036854775808)).2 = 20 := by decide

/-! ### util::Pool: every history of Allocate / Continue -/
section pool
open PV.Pool

/-- every live allocation lies inside one malloc'ed page, for all of its bytes -/
theorem pool_allocations_in_page (ops : List Op) (h : Hist) (hr : Hist.init.run ops = some h) :
    ∀ l ∈ h.live, inPage h.pool l.addr l.size :=
  (PV.Lemmas.Pool.inv_of_run hr).inpage

/-- no two live allocations share a byte (a stored answer or word is never overwritten by a later one) -/
theorem pool_allocations_disjoint (ops : List Op) (h : Hist) (hr : Hist.init.run ops = some h) :
    h.live.Pairwise disjoint :=
  (PV.Lemmas.Pool.inv_of_run hr).ord.imp PV.Lemmas.Pool.ordered_disjoint

/-- earlier allocations never move or change size, pages never change size; Allocate moves nothing at all -/
theorem pool_earlier_allocations_stay (h h' : Hist) (o : Op) (hs : h.step o = some h') :
    h.live.dropLast <+: h'.live ∧ h.pool.pages <+: h'.pool.pages ∧ (∀ n, o = .alloc n → h.live <+: h'.live) := by
  cases o with
  | alloc n =>
    cases hs
    exact ⟨(List.dropLast_prefix _).trans (List.prefix_append ..), PV.Lemmas.Pool.allocate_pages ..,
      fun _ _ => List.prefix_append ..⟩
  | cont d =>
    rw [Hist.step] at hs
    split at hs
    · cases hs
    split at hs
    · cases hs
    split at hs
    · cases hs
    next heq =>
      cases hs
      exact ⟨List.prefix_append .., PV.Lemmas.Pool.continue_pages heq, nofun⟩

/-- every memcpy of Continue reads inside the old page and writes inside the new, different, page -/
theorem pool_continue_copies_in_bounds (ops : List Op) (h : Hist) (hr : Hist.init.run ops = some h) :
    ∀ c ∈ h.copies, inPage h.pool c.src c.len ∧ inPage h.pool c.dst c.len ∧ c.src.page < c.dst.page :=
  (PV.Lemmas.Pool.inv_of_run hr).copies

/-- Continue on the most recent allocation never trips the contract test, and when it moves it copies exactly the old bytes -/
theorem pool_continue_total_and_copies_old (ops : List Op) (h : Hist) (hr : Hist.init.run ops = some h) (l : Live) (d : Int)
    (hl : h.live.getLast? = some l) (hd : 0 ≤ (l.size : Int) + d) :
    ∃ h', h.step (.cont d) = some h' ∧
      (h'.copies = h.copies ∨ ∃ l', h'.live.getLast? = some l' ∧ h'.copies = h.copies ++ [⟨l.addr, l'.addr, l.size⟩]) := by
  refine ⟨_, PV.Lemmas.Pool.step_cont (PV.Lemmas.Pool.inv_of_run hr) hl hd, ?_⟩
  -- the two branches of `place`: a page is opened and the copy recorded, or the allocation grows where it is
  unfold PV.Lemmas.Pool.place
  split
  · exact .inr ⟨_, List.getLast?_concat, rfl⟩
  · exact .inl rfl

/-- page k has at least 32·2^k bytes; while the pages fit a 64-bit address space there are at most 59 of them, so the count in
`32 << free_list_.size()` stays below 64 -/
theorem pool_shift_count_small (ops : List Op) (h : Hist) (hr : Hist.init.run ops = some h) :
    (∀ k (hk : k < h.pool.pages.length), 32 * 2 ^ k ≤ h.pool.pages[k]) ∧
    (h.pool.pages.sum < 2 ^ 64 → h.pool.pages.length ≤ 59) :=
  ⟨(PV.Lemmas.Pool.inv_of_run hr).sizes, PV.Lemmas.Pool.shift_count_small (PV.Lemmas.Pool.inv_of_run hr)⟩

/-- cache keeps NULL as "no answer yet" and primes its pool with one byte: once the pool has a page, no allocation (not even of
zero bytes) is handed out in the NULL region again, and the pool keeps its pages -/
theorem pool_no_null_after_first_page (p : Pool) (n : Nat) (h : p.pages ≠ []) :
    1 ≤ (allocate p n).2.page ∧ (allocate p n).1.pages ≠ [] := by
  have hl : 1 ≤ p.pages.length := List.length_pos_iff.mpr h
  unfold allocate more
  split
  · exact ⟨Nat.le_add_left 1 _, List.append_ne_nil_of_right_ne_nil _ (List.cons_ne_nil _ _)⟩
  · exact ⟨hl, h⟩

/-- the first non-empty allocation of a fresh pool opens page 1 (while a zero-byte allocation of a fresh pool IS the NULL pointer: example below) -/
theorem pool_first_byte_opens_a_page (n : Nat) (hn : 0 < n) : (allocate init n).1.pages ≠ [] ∧ (allocate init n).2 = ⟨1, 0⟩ := by
  have h : init.cur + n > init.endOff := (Nat.zero_add n).symm ▸ hn
  unfold allocate
  rw [if_pos h]
  exact ⟨List.cons_ne_nil _ _, rfl⟩
example : (allocate init 0).2 = ⟨0, 0⟩ := by decide

/-- the way every tool uses the pool (Allocate only: one block per stored answer / word): any sequence of sizes is served, one live
block per request, no two sharing a byte, all inside their pages, and nothing is ever copied -/
theorem pool_allocate_only (sizes : List Nat) :
    ∃ h, Hist.init.run (sizes.map Op.alloc) = some h ∧ h.live.length = sizes.length ∧ h.live.Pairwise disjoint ∧
      (∀ l ∈ h.live, inPage h.pool l.addr l.size) ∧ h.copies = [] := by
  obtain ⟨h, hr, hl, hc⟩ := PV.Lemmas.Pool.run_allocs sizes Hist.init
  exact ⟨h, hr, hl.trans (Nat.zero_add _), pool_allocations_disjoint _ h hr, pool_allocations_in_page _ h hr, hc⟩

-- non-vacuity: a history with an in-place Continue, a shrinking one, a moving one (copy of 100 bytes from page 2 to page 3) and four pages
example : (Hist.init.run [.alloc 5, .alloc 0, .cont 3, .cont (-2), .alloc 100, .cont 40, .alloc 1]).map
    (fun h => (h.pool, h.live.map (fun l => (l.addr.page, l.addr.off, l.size)), h.copies.map (fun c => (c.src.page, c.src.off, c.dst.page, c.len)))) =
    some (⟨[32, 100, 140, 256], 1⟩, [(1, 0, 5), (1, 5, 1), (3, 0, 140), (4, 0, 1)], [(2, 0, 3, 100)]) := by rfl
end pool

end PV.Props.C20
