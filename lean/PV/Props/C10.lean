import PV.Model.Fields
import PV.Model.Murmur
import PV.Spec.Fields
import PV.Lemmas.Fields
import PV.Model.Tools
/- C10 — field keys depend only on the selected fields (cut -f semantics). -/
namespace PV.Props.C10
open PV.Fields PV.Spec.Fields

/-- RangeFields hands the callback exactly what `cut` selects: per range, the selected fields
    joined by the delimiter; a range the line has no field for contributes nothing. -/
theorem range_eq_cut (line : List UInt8) (ranges : List FieldRange) (delim : UInt8)
    (h : WellFormed ranges) : rangeFields line ranges delim = cutSelect ranges delim line :=
  Lemmas.Fields.rangeFieldsFrom_spec ranges (Lemmas.Fields.fieldStart_zero delim line) h
    (fun _ _ => Nat.zero_le _)

/-- IndividualFields hands over the selected fields one by one. -/
theorem individual_eq_selected (line : List UInt8) (ranges : List FieldRange) (delim : UInt8)
    (h : WellFormed ranges) (hlen : line.length < kInf) :
    individualFields line ranges delim =
      ranges.flatMap (selected (splitFields delim line)) :=
  Lemmas.Fields.individualFieldsFrom_spec
    (Nat.le_trans (Lemmas.Fields.length_splitFields_le delim line) hlen) ranges
    (Lemmas.Fields.fieldStart_zero delim line) h (fun _ _ => Nat.zero_le _)

/-- Two lines that both contain all selected fields get the same pieces (hence the same key)
    exactly when their selected fields have identical content. -/
theorem pieces_iff_selected_equal (l1 l2 : List UInt8) (ranges : List FieldRange) (delim : UInt8)
    (h : WellFormed ranges) (h1 : ContainsAll ranges delim l1) (h2 : ContainsAll ranges delim l2) :
    rangeFields l1 ranges delim = rangeFields l2 ranges delim ↔
      ∀ f ∈ ranges, selected (splitFields delim l1) f = selected (splitFields delim l2) f := by
  rw [range_eq_cut _ _ _ h, range_eq_cut _ _ _ h]
  exact Lemmas.Fields.cutSelect_eq_iff h (Lemmas.Fields.containsAll_begin_lt h h1)
    (Lemmas.Fields.containsAll_begin_lt h h2)

/-- Hence bytes in unselected fields — including whether further, possibly empty, fields follow
    the last selected one — never influence the key … -/
theorem key_ignores_unselected (l1 l2 : List UInt8) (ranges : List FieldRange) (delim : UInt8) (seed : UInt64)
    (h : WellFormed ranges) (h1 : ContainsAll ranges delim l1) (h2 : ContainsAll ranges delim l2)
    (heq : ∀ f ∈ ranges, selected (splitFields delim l1) f = selected (splitFields delim l2) f) :
    PV.Murmur.hashPieces seed (rangeFields l1 ranges delim) =
      PV.Murmur.hashPieces seed (rangeFields l2 ranges delim) := by
  rw [(pieces_iff_selected_equal l1 l2 ranges delim h h1 h2).mpr heq]

/-- … and any difference inside a selected field changes the pieces that are hashed (so the
    keys differ unless the 64-bit hash collides). -/
theorem selected_difference_changes_pieces (l1 l2 : List UInt8) (ranges : List FieldRange) (delim : UInt8)
    (h : WellFormed ranges) (h1 : ContainsAll ranges delim l1) (h2 : ContainsAll ranges delim l2)
    (hne : ∃ f ∈ ranges, selected (splitFields delim l1) f ≠ selected (splitFields delim l2) f) :
    rangeFields l1 ranges delim ≠ rangeFields l2 ranges delim := by
  intro he
  obtain ⟨f, hf, hne⟩ := hne
  exact hne ((pieces_iff_selected_equal l1 l2 ranges delim h h1 h2).mp he f hf)

/-- A selected field that is present but EMPTY must count: the three tools hash the pieces as a chain of MurmurHash64A, and an
    empty piece changes the chain state iff the state is not a fixed point of hashing "".  The start values of today's source
    (dedupe -f, shard, cache; regenerated constants) are not such fixed points … -/
theorem empty_first_field_counts :
    PV.Murmur.hashPieces (PV.Tools.seedOf PV.Gen.dedupeFieldSeed) [[]] ≠ PV.Tools.seedOf PV.Gen.dedupeFieldSeed ∧
    PV.Murmur.hashPieces (PV.Tools.seedOf PV.Gen.shardSeed) [[]] ≠ PV.Tools.seedOf PV.Gen.shardSeed ∧
    PV.Murmur.hashPieces (PV.Tools.seedOf PV.Gen.cacheSeed) [[]] ≠ PV.Tools.seedOf PV.Gen.cacheSeed := by
  decide +kernel

/-- … whereas 0 is (cache started there until 331adfa): from seed 0 an empty first piece is invisible whatever follows, so
    `cache -k 1,2` gave "\tx" (pieces "", "x") the key of "x" (piece "x") and answered one with the other's cached line. -/
theorem empty_first_piece_invisible_from_seed_zero (ps : List (List UInt8)) :
    PV.Murmur.hashPieces 0 ([] :: ps) = PV.Murmur.hashPieces 0 ps := by
  have h : PV.Murmur.hash64A [] 0 = 0 := by decide +kernel
  simp [PV.Murmur.hashPieces, h]

/-- ParseFields accepts exactly the cut LIST grammar over the characters `0-9 , -` and reads it
    as cut does: malformed lists (field 0, decreasing range, missing separator, empty list or
    item, out-of-range number) are errors. -/
theorem parse_matches_cut_grammar (s : List UInt8) :
    parseFields s = (cutParse s).map (·.map Item.denote) := by
  cases s with
  | nil => rfl
  | cons c t =>
    exact (Lemmas.Fields.parseLoop_eq (List.cons_ne_nil c t) (Nat.lt_succ_self _) []).trans (by simp)

/-- DefragmentFields: the result is well formed and selects exactly the same field numbers. -/
theorem defragment_sound (fs gs : List FieldRange) (hfs : ∀ f ∈ fs, f.begin < f.stop ∧ f.stop ≤ kInf)
    (h : defragment fs = some gs) :
    WellFormed gs ∧ ∀ k, (∃ g ∈ gs, inRange k g) ↔ (∃ f ∈ fs, inRange k f) :=
  Lemmas.Fields.defragment_sound' fs gs hfs h

/-- … and overlapping ranges are rejected rather than silently reinterpreted. -/
theorem defragment_rejects_overlap (fs : List FieldRange) (hfs : ∀ f ∈ fs, f.begin < f.stop ∧ f.stop ≤ kInf) :
    defragment fs = none ↔
      ∃ (i j : Nat) (f g : FieldRange), i < j ∧ fs[i]? = some f ∧ fs[j]? = some g ∧ ∃ k, inRange k f ∧ inRange k g :=
  Lemmas.Fields.defragment_rejects_overlap' fs hfs

-- non-vacuity
example : rangeFields [97, 9] [⟨0, 1⟩] 9 = [[97]] := by decide                 -- "a\t" -f 1  keys as "a"
example : rangeFields [97, 9, 88] [⟨0, 1⟩] 9 = [[97]] := by decide             -- "a\tX" -f 1
example : rangeFields [97, 9] [⟨1, 2⟩] 9 = [[]] := by decide                   -- "a\t" -f 2  = ""
example : rangeFields [98, 9, 9, 99] [⟨1, 2⟩] 9 = [[]] := by decide            -- "b\t\tc" -f 2 = ""
example : WellFormed [⟨0, 1⟩, ⟨2, 4⟩] := by simp [WellFormed, kInf, PV.Gen.kInfiniteEnd]
example : parseFields [48] = none := by decide                                  -- "0"
example : parseFields [50, 45, 51, 45, 49] = none := by decide                  -- "2-3-1"

end PV.Props.C10
