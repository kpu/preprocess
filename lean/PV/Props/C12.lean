import PV.Model.Utf8
import PV.Spec.Utf8
import PV.Lemmas.Utf8
/-
C12 — UTF-8 validation accepts exactly well-formed UTF-8.
-/
namespace PV.Props.C12
open PV.Utf8 PV.Spec.Utf8

/-- `DecodeUTF8` succeeds with `(c, n)` exactly when `c` is a scalar value whose Table 3-6
    encoding has `n` bytes and is a prefix of the window. -/
theorem decode_iff (bs : List UInt8) (c n : Nat) :
    decode bs = some (c, n) ↔ (Scalar c ∧ (encodeCP c).length = n ∧ encodeCP c <+: bs) :=
  ⟨PV.Lemmas.Utf8.decode_sound, fun ⟨hs, hn, rest, hr⟩ => hr ▸ hn ▸ PV.Lemmas.Utf8.decode_encodeCP hs rest⟩

/-- The language accepted at the front of a window is exactly Table 3-7's: no overlong forms,
    no surrogates, nothing above U+10FFFF, no truncation, no stray continuation byte. -/
theorem decode_wf37 (bs : List UInt8) : (decode bs).map (·.2) = wf37 bs := by
  rw [PV.Lemmas.Utf8.decode_eq_decodeA, PV.Lemmas.Utf8.decodeA_wf37A, PV.Lemmas.Utf8.wf37_eq_wf37A]

/-- What follows the first four bytes — however much of it, 2^32 bytes and more included — cannot change the decoder's answer:
    the answer for the rest of a text of any length is the answer for its first four bytes.  (The correspondence run uses this to
    say what the real iterator must return at the front of 2^32+k-byte and 2^33+k-byte texts, which the model cannot hold.) -/
theorem decode_window (bs : List UInt8) : decode bs = decode (bs.take 4) := by
  rcases bs with _ | ⟨a, _ | ⟨b, _ | ⟨c, _ | ⟨d, r⟩⟩⟩⟩
  iterate 4 rfl
  rw [PV.Lemmas.Utf8.decode_eq_decodeA, PV.Lemmas.Utf8.decode_eq_decodeA]
  -- only the length tests see the bytes behind the fourth, and all of them hold from four bytes on
  simp only [PV.Lemmas.Utf8.decodeA, byteAt, List.take_succ_cons, List.take_zero, List.length_cons, List.length_nil,
    List.getD_cons_zero, List.getD_cons_succ, Nat.succ_ne_zero, Nat.le_add_left, true_and, if_false, Nat.reduceAdd,
    Nat.reduceLeDiff]

/-- The iterator loop returns `cs` exactly when the text is the concatenated encoding of the
    scalar values `cs`. -/
theorem decodeAll_iff (bs : List UInt8) (cs : List Nat) :
    decodeAll bs = some cs ↔ ((∀ c ∈ cs, Scalar c) ∧ bs = cs.flatMap encodeCP) :=
  PV.Lemmas.Utf8.decodeAll_iff bs cs

/-- `IsUTF8` accepts exactly the well-formed strings. -/
theorem isUTF8_iff (bs : List UInt8) : isUTF8 bs = true ↔ WellFormed bs :=
  PV.Lemmas.Utf8.isUTF8_iff bs

/-- A filter that keeps a line iff `IsUTF8` (remove_invalid_utf8) keeps precisely the
    well-formed lines, unchanged and in order. -/
theorem filter_keeps_exactly_wellformed (ls : List (List UInt8)) :
    ∀ l, l ∈ ls.filter (fun l => isUTF8 l) ↔ (l ∈ ls ∧ WellFormed l) := by
  intro l
  rw [List.mem_filter, isUTF8_iff]

-- non-vacuity: concrete windows on both sides of each boundary
example : decode [0xC3, 0xA9] = some (0xE9, 2) := by decide
example : decode [0xC0, 0xAF] = none := by decide              -- overlong
example : decode ([0xE2, 0x82, 0xAC] ++ List.replicate 1000 0) = some (0x20AC, 3) := by rw [decode_window]; decide
example : decode [0xED, 0xA0, 0x80] = none := by decide        -- surrogate
example : decode [0xF4, 0x90, 0x80, 0x80] = none := by decide  -- > U+10FFFF
example : decode [0xF0, 0x9F, 0x98, 0x80] = some (0x1F600, 4) := by decide
example : decode [0xE2, 0x82] = none := by decide              -- truncated
example : decode [0x80] = none := by decide                    -- stray continuation

end PV.Props.C12
