import PV.Model.Tools
import PV.Spec.FirstOcc
import PV.Lemmas.Tools
/-
C01 — dedupe keeps exactly the first occurrence of every key, in input order.
The key function is arbitrary (whole-line Murmur or the field fold for -f and -d, see C10/C14); the
only hypothesis is that no key hashes to 0, the empty-bucket marker (see `zero_hash_dropped`).
"Same key" is equality of 64-bit hashes; `collision_free_text` transfers every statement to
equality of the selected text under the documented no-collision hypothesis.
-/
namespace PV.Props.C01
open PV.Tools PV.Spec.FirstOcc

/-- dedupe (through the real hash-table model, any number of doublings) writes exactly the
    first-occurrence lines, in input order. -/
theorem dedupe_eq_firstOcc (key : Line → Nat) (ls : List Line) (h0 : ∀ l ∈ ls, key l ≠ 0) :
    dedupe key ls = some (firstOccBy key ls) :=
  PV.Lemmas.Tools.dedupeLoop_spec key ls PV.Lemmas.Tools.seen_init h0

/-- "exactly those lines whose key has not appeared on an earlier line" -/
theorem firstOcc_characterisation {α β : Type} [DecidableEq β] (f : α → β) (ls : List α) :
    firstOccBy f ls =
      (ls.zipIdx.filter (fun (l, i) => decide (f l ∉ (ls.take i).map f))).map (·.1) :=
  PV.Lemmas.FirstOcc.firstOccGo_characterisation f [] [] ls fun _ => Iff.rfl

theorem firstOcc_sublist {α β : Type} [DecidableEq β] (f : α → β) (ls : List α) :
    (firstOccBy f ls).Sublist ls :=
  PV.Lemmas.FirstOcc.firstOccGo_sublist f [] ls

/-- no key occurs twice in the output -/
theorem firstOcc_keys_nodup {α β : Type} [DecidableEq β] (f : α → β) (ls : List α) :
    ((firstOccBy f ls).map f).Nodup :=
  PV.Lemmas.FirstOcc.firstOccGo_nodup f [] ls

/-- every input key occurs in the output -/
theorem firstOcc_keys_complete {α β : Type} [DecidableEq β] (f : α → β) (ls : List α) :
    ∀ l ∈ ls, f l ∈ (firstOccBy f ls).map f := fun _ hl =>
  (PV.Lemmas.FirstOcc.mem_map_firstOccGo f [] ls _).2 ⟨List.mem_map_of_mem hl, List.not_mem_nil⟩

/-- running dedupe on its own output changes nothing -/
theorem firstOcc_idempotent {α β : Type} [DecidableEq β] (f : α → β) (ls : List α) :
    firstOccBy f (firstOccBy f ls) = firstOccBy f ls :=
  PV.Lemmas.FirstOcc.firstOccGo_of_nodup f [] _ (fun _ _ => List.not_mem_nil)
    (PV.Lemmas.FirstOcc.firstOccGo_nodup f [] ls)

/-- under the no-collision hypothesis, first occurrence by hash is first occurrence by the
    selected text. -/
theorem collision_free_text {α β γ : Type} [DecidableEq β] [DecidableEq γ] (key : α → β) (text : α → γ)
    (ls : List α) (h : ∀ a ∈ ls, ∀ b ∈ ls, key a = key b ↔ text a = text b) :
    firstOccBy key ls = firstOccBy text ls :=
  PV.Lemmas.FirstOcc.firstOccGo_congr key text [] [] ls h fun _ _ => ⟨nofun, nofun⟩

/-- the documented marker behaviour: a line whose key is 0 is treated as already seen. -/
theorem zero_hash_dropped (key : Line → Nat) (l : Line) (h : key l = 0) : dedupe key [l] = some [] := by
  rw [dedupe, PV.Lemmas.Tools.dedupeLoop_eq key [l] PV.Lemmas.Tools.seen_init,
    List.filter_cons_of_neg (by simpa using h)]
  rfl

/-- parallel mode follows the two-table short-circuit specification … -/
theorem dedupePar_eq_spec (key : Line → Nat) (ps : List (Line × Line))
    (h0 : ∀ p ∈ ps, key p.1 ≠ 0 ∧ key p.2 ≠ 0) : dedupePar key ps = some (parSpec key ps) :=
  PV.Lemmas.Tools.dedupeParLoop_spec key ps PV.Lemmas.Tools.seen_init PV.Lemmas.Tools.seen_init h0

/-- … whose output pairs are input pairs in input order (so the two outputs stay line-aligned), -/
theorem par_sublist {α β : Type} [DecidableEq β] (f : α → β) (ps : List (α × α)) :
    (parSpec f ps).Sublist ps := by
  rw [parSpec, PV.Lemmas.FirstOcc.parGo_eq]
  exact (PV.Lemmas.FirstOcc.firstOccGo_sublist _ [] _).trans (PV.Lemmas.FirstOcc.firstOccGo_sublist _ [] ps)

/-- neither output repeats a line (key), -/
theorem par_nodup_each_side {α β : Type} [DecidableEq β] (f : α → β) (ps : List (α × α)) :
    ((parSpec f ps).map (fun p => f p.1)).Nodup ∧ ((parSpec f ps).map (fun p => f p.2)).Nodup := by
  rw [parSpec, PV.Lemmas.FirstOcc.parGo_eq]
  exact ⟨((PV.Lemmas.FirstOcc.firstOccGo_sublist _ [] _).map _).nodup (PV.Lemmas.FirstOcc.firstOccGo_nodup _ [] ps),
    PV.Lemmas.FirstOcc.firstOccGo_nodup _ [] _⟩

/-- and a pair whose two sides both never occurred before is never dropped. -/
theorem par_both_new_kept {α β : Type} [DecidableEq β] (f : α → β) (pre post : List (α × α)) (a b : α)
    (ha : f a ∉ pre.map (fun p => f p.1)) (hb : f b ∉ pre.map (fun p => f p.2)) :
    (a, b) ∈ parSpec f (pre ++ (a, b) :: post) :=
  PV.Lemmas.FirstOcc.parGo_both_new f [] [] pre post a b List.not_mem_nil List.not_mem_nil ha hb

-- non-vacuity
example : firstOccBy (fun (n : Nat) => n % 3) [1, 4, 2, 7, 5, 3] = [1, 2, 3] := by decide +kernel
example : parSpec (fun (n : Nat) => n) [(1, 2), (1, 3), (4, 2), (5, 3)] = [(1, 2), (5, 3)] := by decide +kernel

end PV.Props.C01
