import PV.Model.Tools2
import PV.Lemmas.Tools2
import PV.Model.Base64
import PV.Model.Docenc
import PV.Spec.Base64
import PV.Spec.Records
import PV.Lemmas.Base64
import PV.Lemmas.Docenc
/-
C09 — base64 codec and docenc round-trip exactly and reject foreign bytes.
The lemmas are in PV/Lemmas/Base64.lean and Docenc.lean; those of the section on base64_number in Tools2.lean.
`PV.Gen.invTable`, `PV.Gen.b64Table`, `PV.Gen.docencEncodeStripCr` are regenerated from the
C++ source on every run, so these theorems are about the tables in today's tree.
-/
namespace PV.Props.C09
open PV.Base64 PV.Spec.Base64 PV.Spec.Records

/-- `TABLE` is the RFC 4648 alphabet. -/
theorem table_is_alphabet : ∀ i, i < 64 → tbl i = alpha i :=
  PV.Lemmas.Base64.tbl_alpha

/-- `INV_TABLE` is exactly the inverse of the alphabet: -1 on every foreign byte (all 256
    entries are examined), the index on members. -/
theorem inv_table_exact (b : UInt8) :
    (inAlphabet b = false → inv b = -1) ∧ (∀ i, i < 64 → alpha i = b → inv b = (i : Int)) := by
  refine ⟨fun hf => Decidable.not_not.mp (mt (PV.Lemmas.Base64.inv_ne_neg_one_iff b).mp (ne_true_of_eq_false hf)),
    ?_⟩
  rintro i hi rfl
  exact PV.Lemmas.Base64.inv_alpha i hi

/-- Encoding any byte string yields its RFC 4648 base64 with padding. -/
theorem encode_eq_rfc4648 (bs : List UInt8) : encode bs = rfc4648 bs :=
  PV.Lemmas.Base64.encode_eq bs

/-- Decoding the encoding returns the original bytes. -/
theorem decode_encode (bs : List UInt8) : decode (encode bs) = .ok bs :=
  PV.Lemmas.Base64.decode_encode bs

/-- ... also with the padding removed. -/
theorem decode_encode_unpadded (bs : List UInt8) : decode (stripPad (encode bs)) = .ok bs := by
  rw [PV.Lemmas.Base64.encode_eq]
  exact PV.Lemmas.Base64.decode_rfc_stripped bs

/-- Decoding fails, instead of producing data, whenever a byte outside the alphabet occurs
    before the first '='. -/
theorem decode_rejects_foreign (s : List UInt8)
    (h : ∃ b ∈ beforePad s, inAlphabet b = false) : ∀ o, decode s ≠ .ok o := by
  intro o e
  obtain ⟨b, hb, hf⟩ := h
  rw [((PV.Lemmas.Base64.decode_ok_iff s).mp ⟨o, e⟩).2 b hb] at hf
  cases hf

/-- Conversely text made of alphabet characters (then optional '=' …) is accepted unless
    the reserve computation underflows (more trailing '=' than 3/4 of the length). -/
theorem decode_accepts_alphabet (s : List UInt8)
    (h : ∀ b ∈ beforePad s, inAlphabet b = true) (hp : countPadding s ≤ s.length * 3 / 4) :
    ∃ o, decode s = .ok o :=
  (PV.Lemmas.Base64.decode_ok_iff s).mpr ⟨hp, h⟩

/-- A document for the default separator: newline-terminated non-empty lines (no blank line,
    no newline inside a line).  The empty document is included. -/
def NlDoc (d : List UInt8) : Prop :=
  ∃ ls : List (List UInt8), (∀ l ∈ ls, l ≠ [] ∧ (10 : UInt8) ∉ l) ∧ d = unlines ls

/-- `docenc -d | docenc` reproduces any sequence of such documents (default separator):
    decoding the base64 lines of `ds` and re-encoding gives the same base64 lines. -/
theorem docenc_roundtrip_nl (ds : List (List UInt8)) (h : ∀ d ∈ ds, NlDoc d) :
    (PV.Docenc.decode false [] (unlines (ds.map encode))).map (PV.Docenc.encode false []) =
      some (unlines (ds.map encode)) := by
  rw [PV.Lemmas.Docenc.decode_encoded, Option.map_some]
  exact congrArg some (PV.Lemmas.Docenc.encode_joined_nl ds h)

/-- Same for `-0` and NUL-free, non-empty documents (an empty document cannot be told from
    "no document" at end of input; the tool documents the separator confusion). -/
theorem docenc_roundtrip_nul (ds : List (List UInt8)) (h : ∀ d ∈ ds, d ≠ [] ∧ (0 : UInt8) ∉ d) :
    (PV.Docenc.decode true [] (unlines (ds.map encode))).map (PV.Docenc.encode true []) =
      some (unlines (ds.map encode)) := by
  rw [PV.Lemmas.Docenc.decode_encoded, Option.map_some]
  exact congrArg some (PV.Lemmas.Docenc.encode_joined_nul ds fun d hd => (h d hd).2)

/-- Index arguments select exactly the listed documents: for a strictly increasing list of
    positive indices the walk returns the documents at those (1-based) positions. -/
theorem index_selection {α : Type} (ind : List Nat) (ds : List α)
    (hpos : ∀ i ∈ ind, 0 < i) (hsorted : ind.Pairwise (· < ·)) (hne : ind ≠ []) :
    PV.Docenc.select ind ds = ind.filterMap (fun i => ds[i - 1]?) := by
  rw [PV.Docenc.select, PV.Lemmas.Docenc.selectFrom_eq ds 0 ind hne,
    PV.Lemmas.Docenc.selectFrom'_spec ds ds 0 ind rfl hpos hsorted]

theorem index_selection_all {α : Type} (ds : List α) : PV.Docenc.select [] ds = ds :=
  PV.Lemmas.Docenc.selectFrom_nil ds 0

/-- Index arguments as typed — in any order, repeated, from overlapping ranges — select exactly the documents
    whose (1-based) number is listed, each once, in document order. -/
theorem index_selection_any_args {α : Type} (args : List Nat) (ds : List α)
    (hpos : ∀ i ∈ args, 0 < i) (hne : args ≠ []) :
    PV.Docenc.selectArgs args ds =
      ((List.range ds.length).filter (fun k => decide (k + 1 ∈ args))).filterMap (fun k => ds[k]?) := by
  have hpos' : ∀ i ∈ PV.Docenc.prepare args, 0 < i :=
    fun i hi => hpos i ((PV.Lemmas.Docenc.mem_prepare i args).1 hi)
  have hs := PV.Lemmas.Docenc.prepare_strict args
  rw [PV.Docenc.selectArgs, index_selection _ ds hpos' hs (PV.Lemmas.Docenc.prepare_ne_nil args hne),
    PV.Lemmas.Docenc.filterMap_index_eq _ ds hpos' hs]
  congr 1
  exact List.filter_congr fun k _ => by simp only [PV.Lemmas.Docenc.mem_prepare]

/-- before the repair (`prepare` = sort only) a repeated index blocked the walk: `1-3 2-4` selected documents 1 and 2. -/
theorem index_selection_needs_unique :
    PV.Docenc.select (PV.Docenc.sortIndices [1, 2, 3, 2, 3, 4]) ["a", "b", "c", "d", "e"] = ["a", "b"] := by decide

-- non-vacuity
example : encode [0x41, 0x42, 0x43] = [0x51, 0x55, 0x4A, 0x44] := by decide +kernel
example : decode [0x51, 0x55, 0x4A, 0x44] = .ok [0x41, 0x42, 0x43] := by decide +kernel
example : NlDoc [0x61, 13, 10, 0x62, 10] := ⟨[[0x61, 13], [0x62]], by decide, by decide⟩
example : PV.Docenc.select [2, 3] ["a", "b", "c", "d"] = ["b", "c"] := by decide
example : PV.Docenc.selectArgs [1, 2, 3, 2, 3, 4] ["a", "b", "c", "d", "e"] = ["a", "b", "c", "d"] := by decide
example : PV.Docenc.selectArgs [3, 1, 3] ["a", "b", "c", "d", "e"] = ["a", "c"] := by decide

/-! #### base64_number (PV.Tools2) -/
section Number
open PV.Tools PV.Tools2

/-- tokens are exactly the maximal delimiter-free runs: none is empty, none contains a delimiter, and with the
    delimiters that separated them they make up the input (here: dropping all delimiters from the input gives the
    concatenation of the tokens). -/
theorem tokens_spec (isDelim : UInt8 → Bool) (bs : List UInt8) :
    (∀ t ∈ tokens isDelim bs, t ≠ [] ∧ ∀ b ∈ t, isDelim b = false) ∧
    (tokens isDelim bs).flatten = bs.filter (fun b => !isDelim b) :=
  PV.Lemmas.Tools2.tokens_spec isDelim bs

/-- base64_number numbers documents by their 0-based input line, whatever they contain (empty documents, documents
    without final newline, blank lines inside): the output for `a ++ b` is the output for `a` followed by the output
    for `b` numbered from `a.length`. -/
theorem base64_number_compositional (a b : List Line) (i : Nat) :
    base64NumberFrom i (a ++ b) =
      (base64NumberFrom i a).bind (fun x => (base64NumberFrom (i + a.length) b).map (x ++ ·)) := by
  induction a generalizing i with
  | nil =>
    rw [List.nil_append, base64NumberFrom, Option.bind_some]
    exact Option.map_id'.symm
  | cons l a ih =>
    rw [List.cons_append, base64NumberFrom, base64NumberFrom, List.length_cons, ← Nat.add_assoc i, Nat.add_right_comm i]
    cases PV.Base64.decode l with
    | ok doc =>
      simp only [ih (i + 1)]
      cases base64NumberFrom (i + 1) a with
      | none => rfl
      | some x =>
        cases base64NumberFrom (i + 1 + a.length) b with
        | none => rfl
        | some y => exact congrArg some (List.append_assoc ..).symm
    | notB64 | length => rfl

/-- every output line is a non-empty line of its document, free of TAB and LF, followed by TAB and the document's
    number; an undecodable line aborts the run. -/
theorem base64_number_lines (ls out : List Line) (h : base64Number ls = some out) :
    ∀ o ∈ out, ∃ i body, i < ls.length ∧ o = body ++ [9] ++ decimal i ∧ body ≠ [] ∧ (9 : UInt8) ∉ body ∧ (10 : UInt8) ∉ body := by
  intro o ho
  obtain ⟨j, body, _, hj, h1, h2, h3, h4⟩ := PV.Lemmas.Tools2.base64NumberFrom_lines ls 0 out h o ho
  exact ⟨j, body, by simpa using hj, h1, h2, h3, h4⟩

-- "aGk=" = "hi", "" = empty document, "YQoKYgli" = "a\n\nb\tb"
example : base64Number [[97, 71, 107, 61], [], [89, 81, 111, 75, 89, 103, 108, 105]] =
    some [[104, 105, 9, 48], [97, 9, 50], [98, 32, 98, 9, 50]] := by decide +kernel

end Number

section Window
/-! Texts too long to run: the encoder's output is compositional at 3-byte boundaries, so any 4-aligned window of the output of a
    text of ANY length is the encoding of the corresponding input window, and the length is 4*ceil(n/3).  The correspondence run
    judges base64_encode on texts of 2^31 .. 2^32+k bytes (which the model cannot hold) by windows through these theorems;
    `decode_rejects_foreign` above does the same for base64_decode on such texts. -/
/-- RFC 4648 encoding is compositional at multiples of three bytes -/
theorem rfc4648_append (a b : List UInt8) (h : a.length % 3 = 0) :
    rfc4648 (a ++ b) = rfc4648 a ++ rfc4648 b :=
  PV.Lemmas.Base64Window.rfc4648_append a b h

/-- the encoded length is 4 * ceil(n / 3), for every n -/
theorem encode_length (bs : List UInt8) : (encode bs).length = 4 * ((bs.length + 2) / 3) :=
  PV.Lemmas.Base64Window.encode_length bs

/-- a window of the output at a 4-aligned offset is the encoding of the corresponding 3-aligned input window, whatever
    precedes and follows it and however long the whole text is -/
theorem encode_window (pre mid post : List UInt8) (hp : pre.length % 3 = 0) (hm : mid.length % 3 = 0) :
    ((encode (pre ++ mid ++ post)).drop (4 * (pre.length / 3))).take (4 * (mid.length / 3)) = encode mid :=
  PV.Lemmas.Base64Window.encode_window pre mid post hp hm

/-- and the final window (the last 1..3 input bytes, with padding) likewise -/
theorem encode_tail (pre last : List UInt8) (hp : pre.length % 3 = 0) :
    (encode (pre ++ last)).drop (4 * (pre.length / 3)) = encode last :=
  PV.Lemmas.Base64Window.encode_tail pre last hp

example : encode [0, 0, 0, 77, 97, 110, 0] = [65, 65, 65, 65, 84, 87, 70, 117, 65, 65, 61, 61] := by decide +kernel

end Window

end PV.Props.C09
